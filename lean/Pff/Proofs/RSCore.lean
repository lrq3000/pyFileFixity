import Pff.Model.RS
import Mathlib.Algebra.Field.Defs
import Mathlib.Algebra.Field.Basic
import Mathlib.Algebra.GroupWithZero.Basic
import Mathlib.Tactic.Ring
import Mathlib.Tactic.LinearCombination
/-!
Field-generic Reed–Solomon theory, part 1: Horner evaluation, the generator polynomial and its
roots, and the three encoders of `Pff/Model/RS.lean` (in-place LFSR, schoolbook long division,
synthetic division of the stripped dividend) all compute a remainder of `msg · x^nsym` modulo the
generator, so that `msg ++ parity` vanishes at every root of the generator.
-/
namespace Pff.RSProofs

open Pff.RS

set_option linter.unusedSectionVars false

variable {F : Type} [Field F] [DecidableEq F]

/-! ### Horner evaluation -/

@[simp] theorem polyEval_nil (x : F) : polyEval ([] : List F) x = 0 := rfl

theorem foldl_horner (w : List F) (x acc : F) :
    w.foldl (fun acc c => acc * x + c) acc = acc * x ^ w.length + polyEval w x := by
  induction w generalizing acc with
  | nil => simp [polyEval]
  | cons c w ih =>
    simp only [List.foldl_cons, List.length_cons, polyEval]
    rw [ih, ih (0 * x + c)]
    ring

theorem polyEval_cons (c : F) (w : List F) (x : F) :
    polyEval (c :: w) x = c * x ^ w.length + polyEval w x := by
  unfold polyEval
  rw [List.foldl_cons, foldl_horner]
  simp [polyEval]

theorem polyEval_append (a b : List F) (x : F) :
    polyEval (a ++ b) x = polyEval a x * x ^ b.length + polyEval b x := by
  unfold polyEval
  rw [List.foldl_append, foldl_horner]
  rfl

theorem polyEval_append_singleton (w : List F) (c x : F) :
    polyEval (w ++ [c]) x = polyEval w x * x + c := by
  rw [polyEval_append, polyEval_cons]; simp

@[simp] theorem polyEval_replicate_zero (n : Nat) (x : F) :
    polyEval (List.replicate n (0 : F)) x = 0 := by
  induction n with
  | zero => rfl
  | succ n ih => rw [List.replicate_succ, polyEval_cons, ih]; simp

theorem polyEval_zeros_append (n : Nat) (w : List F) (x : F) :
    polyEval (List.replicate n (0 : F) ++ w) x = polyEval w x := by
  rw [polyEval_append]; simp

theorem polyEval_append_zeros (w : List F) (n : Nat) (x : F) :
    polyEval (w ++ List.replicate n (0 : F)) x = polyEval w x * x ^ n := by
  rw [polyEval_append]; simp

theorem polyEval_map_mul_left (c : F) (g : List F) (x : F) :
    polyEval (g.map (c * ·)) x = c * polyEval g x := by
  induction g with
  | nil => simp
  | cons a g ih => rw [List.map_cons, polyEval_cons, polyEval_cons, ih, List.length_map]; ring

theorem polyEval_map_mul_right (c : F) (g : List F) (x : F) :
    polyEval (g.map (· * c)) x = polyEval g x * c := by
  induction g with
  | nil => simp
  | cons a g ih => rw [List.map_cons, polyEval_cons, polyEval_cons, ih, List.length_map]; ring

/-! ### `addLists`, `addPrefix` -/

theorem addLists_cons_cons (a b : F) (as bs : List F) :
    addLists (a :: as) (b :: bs) = (a + b) :: addLists as bs := rfl

@[simp] theorem addPrefix_nil_left (v : List F) : addPrefix ([] : List F) v = [] := by
  cases v <;> rfl
@[simp] theorem addPrefix_nil_right (l : List F) : addPrefix l ([] : List F) = l := by
  cases l <;> rfl
theorem addPrefix_cons_cons (a b : F) (as bs : List F) :
    addPrefix (a :: as) (b :: bs) = (a + b) :: addPrefix as bs := rfl

@[simp] theorem length_addPrefix (l v : List F) : (addPrefix l v).length = l.length := by
  induction l generalizing v with
  | nil => simp
  | cons a as ih => cases v with
    | nil => simp
    | cons b bs => rw [addPrefix_cons_cons, List.length_cons, List.length_cons, ih]

theorem polyEval_addPrefix (l v : List F) (d : Nat) (h : l.length = v.length + d) (x : F) :
    polyEval (addPrefix l v) x = polyEval l x + polyEval v x * x ^ d := by
  induction l generalizing v with
  | nil => cases v with
    | nil => rw [addPrefix_nil_left, polyEval_nil, zero_mul, add_zero]
    | cons b bs => simp at h; omega
  | cons a as ih => cases v with
    | nil => rw [addPrefix_nil_right, polyEval_nil, zero_mul, add_zero]
    | cons b bs =>
      have h' : as.length = bs.length + d := by
        rw [List.length_cons, List.length_cons, Nat.add_right_comm] at h; exact Nat.succ.inj h
      rw [addPrefix_cons_cons, polyEval_cons, polyEval_cons, polyEval_cons, ih bs h',
        length_addPrefix, h', pow_add]
      ring

theorem addLists_eq_addPrefix (a b : List F) (h : a.length = b.length) :
    addLists a b = addPrefix a b := by
  induction a generalizing b with
  | nil => cases b with
    | nil => rfl
    | cons b bs => simp at h
  | cons a as ih => cases b with
    | nil => simp at h
    | cons b bs => rw [addLists_cons_cons, addPrefix_cons_cons, ih bs (Nat.succ.inj h)]

theorem length_addLists (a b : List F) (h : a.length = b.length) :
    (addLists a b).length = a.length := by
  rw [addLists_eq_addPrefix a b h, length_addPrefix]

theorem polyEval_addLists (a b : List F) (h : a.length = b.length) (x : F) :
    polyEval (addLists a b) x = polyEval a x + polyEval b x := by
  rw [addLists_eq_addPrefix a b h, polyEval_addPrefix _ _ 0 h, pow_zero, mul_one]

/-! ### characteristic 2 -/

theorem add_eq_zero_iff_eq' (char2 : ∀ a : F, a + a = 0) {a b : F} : a + b = 0 ↔ a = b :=
  ⟨fun h => by rw [← add_zero a, ← char2 b, ← add_assoc, h, zero_add], fun h => h ▸ char2 a⟩

/-! ### the generator polynomial -/

theorem length_mulLinear (g : List F) (c : F) : (mulLinear g c).length = g.length + 1 := by
  unfold mulLinear
  rw [length_addLists _ _ (by simp)]
  simp

theorem polyEval_mulLinear (g : List F) (c x : F) :
    polyEval (mulLinear g c) x = polyEval g x * (x + c) := by
  unfold mulLinear
  rw [polyEval_addLists _ _ (by simp), polyEval_append_singleton, polyEval_cons,
    polyEval_map_mul_right]
  ring

theorem length_genPoly (pw : Nat → F) (fcr r : Nat) : (genPoly pw fcr r).length = r + 1 := by
  induction r with
  | zero => rfl
  | succ r ih => rw [genPoly, length_mulLinear, ih]

theorem genPoly_monic (pw : Nat → F) (fcr r : Nat) : ∃ t, genPoly pw fcr r = 1 :: t := by
  induction r with
  | zero => exact ⟨[], rfl⟩
  | succ r ih =>
    obtain ⟨t, ht⟩ := ih
    refine ⟨addLists (t ++ [0]) ((1 * pw (r + fcr)) :: t.map (· * pw (r + fcr))), ?_⟩
    rw [genPoly, ht, mulLinear]
    simp [addLists_cons_cons]

theorem genPoly_root (char2 : ∀ a : F, a + a = 0) (pw : Nat → F) (fcr r i : Nat) (hi : i < r) :
    polyEval (genPoly pw fcr r) (pw (i + fcr)) = 0 := by
  induction r with
  | zero => omega
  | succ r ih =>
    rw [genPoly, polyEval_mulLinear]
    rcases Nat.lt_succ_iff_lt_or_eq.mp hi with h | h
    · rw [ih h, zero_mul]
    · rw [h, char2, mul_zero]

/-! ### remainders -/

/-- `rem` is a remainder of `msg · x^nsym` modulo `gen` as far as the roots of `gen` can tell, and
has exactly `nsym = deg gen` symbols -/
def IsRem (gen msg rem : List F) : Prop :=
  rem.length = gen.length - 1 ∧
  ∀ ρ, polyEval gen ρ = 0 →
    polyEval rem ρ = polyEval (msg ++ List.replicate (gen.length - 1) (0 : F)) ρ

theorem IsRem.codeword (char2 : ∀ a : F, a + a = 0) {gen msg rem : List F} (h : IsRem gen msg rem)
    {ρ : F} (hρ : polyEval gen ρ = 0) : polyEval (msg ++ rem) ρ = 0 := by
  rw [polyEval_append, h.2 ρ hρ, polyEval_append_zeros, h.1, char2]

/-- one step of the division by the monic `1 :: gt` (subtract `c · x^d · gen`, which cancels the
leading `c`) does not change the value at a root of the divisor -/
theorem polyEval_divStep (char2 : ∀ a : F, a + a = 0) {gt : List F} {ρ : F}
    (hρ : polyEval (1 :: gt) ρ = 0) (c : F) (rest : List F) (h : gt.length ≤ rest.length) :
    polyEval (addPrefix rest (gt.map (c * ·))) ρ = polyEval (c :: rest) ρ := by
  have := polyEval_addPrefix (c :: rest) ((1 :: gt).map (c * ·)) (rest.length - gt.length)
    (by simp only [List.length_cons, List.length_map]; omega) ρ
  rwa [polyEval_map_mul_left, hρ, mul_zero, zero_mul, add_zero, List.map_cons, mul_one,
    addPrefix_cons_cons, char2, polyEval_cons, zero_mul, zero_add] at this

/-! ### synthetic division (`rs_encode_msg`) -/

theorem synthDiv_zero (gt l : List F) : synthDiv gt l 0 = l := by
  cases l <;> rfl

theorem synthDiv_cons_succ (gt : List F) (c : F) (rest : List F) (k : Nat) :
    synthDiv gt (c :: rest) (k + 1) =
      synthDiv gt (if c = 0 then rest else addPrefix rest (gt.map (c * ·))) k := rfl

theorem length_synthStep (gt : List F) (c : F) (rest : List F) :
    (if c = 0 then rest else addPrefix rest (gt.map (c * ·))).length = rest.length := by
  split
  · rfl
  · exact length_addPrefix _ _

theorem length_synthDiv (gt : List F) (k : Nat) (l : List F) (h : k ≤ l.length) :
    (synthDiv gt l k).length = l.length - k := by
  induction k generalizing l with
  | zero => rw [synthDiv_zero]; rfl
  | succ k ih =>
    cases l with
    | nil => simp at h
    | cons c rest =>
      rw [synthDiv_cons_succ, ih _ (by rw [length_synthStep]; exact Nat.le_of_succ_le_succ h),
        length_synthStep, List.length_cons, Nat.add_sub_add_right]

theorem polyEval_synthDiv (char2 : ∀ a : F, a + a = 0) (gt : List F) (ρ : F)
    (hρ : polyEval (1 :: gt) ρ = 0) (k : Nat) (l : List F) (h : k + gt.length ≤ l.length) :
    polyEval (synthDiv gt l k) ρ = polyEval l ρ := by
  induction k generalizing l with
  | zero => rw [synthDiv_zero]
  | succ k ih =>
    cases l with
    | nil => simp at h
    | cons c rest =>
      have hr : k + gt.length ≤ rest.length := by simp at h; omega
      rw [synthDiv_cons_succ, ih]
      · split
        · next hc => rw [hc, polyEval_cons, zero_mul, zero_add]
        · exact polyEval_divStep char2 hρ c rest (by omega)
      · rwa [length_synthStep]

theorem lfsrEncode_isRem (char2 : ∀ a : F, a + a = 0) (gt msg : List F) :
    IsRem (1 :: gt) msg (lfsrEncode (1 :: gt) msg) := by
  unfold lfsrEncode
  simp only [List.tail_cons, List.length_cons, Nat.add_sub_cancel]
  constructor
  · rw [length_synthDiv _ _ _ (by simp)]; simp
  · intro ρ hρ
    exact polyEval_synthDiv char2 gt ρ hρ _ _ (by simp)

/-! ### stripping and right-justification -/

theorem strip_cons (c : F) (rest : List F) :
    strip (c :: rest) = if c = 0 then strip rest else c :: rest := rfl

@[simp] theorem strip_nil : strip ([] : List F) = [] := rfl

theorem length_strip_le (l : List F) : (strip l).length ≤ l.length := by
  induction l with
  | nil => simp
  | cons c rest ih =>
    rw [strip_cons]; split
    · simp; omega
    · simp

@[simp] theorem polyEval_strip (l : List F) (x : F) : polyEval (strip l) x = polyEval l x := by
  induction l with
  | nil => rfl
  | cons c rest ih =>
    rw [strip_cons]; split
    · next hc => rw [ih, polyEval_cons, hc, zero_mul, zero_add]
    · rfl

theorem length_rjust (l : List F) (w : Nat) (h : l.length ≤ w) : (rjust l w).length = w := by
  unfold rjust; simp; omega

@[simp] theorem polyEval_rjust (l : List F) (w : Nat) (x : F) :
    polyEval (rjust l w) x = polyEval l x := by
  unfold rjust; exact polyEval_zeros_append _ _ _

/-! ### schoolbook long division (`Polynomial.__divmod__`) -/

theorem longDivRem_succ (gen : List F) (fuel : Nat) (r : List F) :
    longDivRem gen (fuel + 1) r =
      if (strip r).length < gen.length then strip r
      else match strip r with
        | [] => []
        | c :: _ => longDivRem gen fuel (addPrefix (strip r) (gen.map (c * ·))) := rfl

theorem longDivRem_spec (char2 : ∀ a : F, a + a = 0) (gt : List F) (fuel : Nat) (r : List F)
    (h : (strip r).length < fuel) :
    (longDivRem (1 :: gt) fuel r).length < (1 :: gt).length ∧
    ∀ ρ, polyEval (1 :: gt) ρ = 0 → polyEval (longDivRem (1 :: gt) fuel r) ρ = polyEval r ρ := by
  induction fuel generalizing r with
  | zero => omega
  | succ fuel ih =>
    rw [longDivRem_succ]
    split
    · next hlt => exact ⟨hlt, fun ρ _ => polyEval_strip r ρ⟩
    · next hge =>
      cases hs : strip r with
      | nil => rw [hs] at hge; simp at hge
      | cons c t =>
        rw [hs] at hge h
        simp only [List.length_cons] at hge h
        simp only [List.map_cons, mul_one, addPrefix_cons_cons, char2]
        have hlen : (strip (0 :: addPrefix t (gt.map (c * ·)))).length < fuel := by
          rw [strip_cons, if_pos rfl]
          have := length_strip_le (addPrefix t (gt.map (c * ·)))
          simp at this; omega
        obtain ⟨h1, h2⟩ := ih _ hlen
        refine ⟨h1, fun ρ hρ => ?_⟩
        rw [h2 ρ hρ, ← polyEval_strip r ρ, hs, polyEval_cons 0, zero_mul, zero_add,
          polyEval_divStep char2 hρ c t (by omega)]

/-- both `RSCoder` encoders end alike: a remainder of at most `nsym` symbols, right-justified -/
theorem isRem_rjust {gt msg b : List F} (hb : b.length ≤ gt.length)
    (he : ∀ ρ, polyEval (1 :: gt) ρ = 0 →
      polyEval b ρ = polyEval (msg ++ List.replicate gt.length (0 : F)) ρ) :
    IsRem (1 :: gt) msg ((rjust b gt.length).drop ((rjust b gt.length).length - gt.length)) := by
  have hl := length_rjust b gt.length hb
  rw [hl, Nat.sub_self, List.drop_zero]
  exact ⟨hl, fun ρ hρ => by rw [polyEval_rjust, he ρ hρ]; rfl⟩

theorem longDivEncode_isRem (char2 : ∀ a : F, a + a = 0) (gt msg : List F) :
    IsRem (1 :: gt) msg (longDivEncode (1 :: gt) msg) := by
  obtain ⟨h1, h2⟩ := longDivRem_spec char2 gt
    ((msg ++ List.replicate gt.length (0 : F)).length + 1) (msg ++ List.replicate gt.length 0)
    (Nat.lt_succ_of_le (length_strip_le _))
  exact isRem_rjust (Nat.lt_succ_iff.mp h1) h2

/-! ### synthetic division of the stripped dividend (`_gffastmod`) -/

theorem fastModEncode_isRem (char2 : ∀ a : F, a + a = 0) (gt msg : List F) :
    IsRem (1 :: gt) msg (fastModEncode (1 :: gt) msg) := by
  unfold fastModEncode
  simp only [List.length_cons, Nat.add_sub_cancel, List.tail_cons]
  split
  · next hlt =>
    exact isRem_rjust (le_trans (length_strip_le _) (Nat.lt_succ_iff.mp hlt))
      (fun ρ _ => by rw [polyEval_strip, polyEval_strip])
  · next hge =>
    refine isRem_rjust (le_trans (length_strip_le _) ?_) (fun ρ hρ => ?_)
    · rw [length_synthDiv _ _ _ (Nat.sub_le _ _)]; omega
    · rw [polyEval_strip, polyEval_synthDiv char2 gt ρ hρ _ _ (by omega), polyEval_strip]

end Pff.RSProofs
