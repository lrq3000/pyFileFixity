import Pff.Proofs.RSFacade
/-! `ECCMan.decode` under contract W. -/
namespace Pff.RSProofs

open Pff.RS Pff.Facade Pff.GF Pff.RSSpec

set_option linter.unusedSectionVars false

variable {F : Type} [Field F] [DecidableEq F]

theorem shift_eq (l : List Nat) (p : Nat) :
    (if l.isEmpty || decide (p = 0) then l else l.map (· + p)) = l.map (· + p) := by
  split
  · next h =>
    rw [Bool.or_eq_true] at h
    rcases h with h | h
    · rw [List.isEmpty_iff.mp h]; rfl
    · have : p = 0 := by simpa using h
      subst this; simp
  · rfl

theorem prepareDecode_eq (c : Codec F) (msg ecc : List F) (k : Nat) (ee : Bool) (ec : F)
    (oe : Bool) :
    prepareDecode c msg ecc k ee ec oe =
      if oe && ((if ee || oe then some ((List.range (msg ++ ecc).length).filter
            (fun i => (msg ++ ecc)[i]? = some ec)) else none).getD []).isEmpty then none
      else some
        { word := (pad msg (effK c k)).1 ++ rpad ecc c.n (effK c k)
          nsym := c.n - effK c k
          erasePos := (if ee || oe then some ((List.range (msg ++ ecc).length).filter
            (fun i => (msg ++ ecc)[i]? = some ec)) else none).map
              (fun l => l.map (· + (pad msg (effK c k)).2))
          onlyErasures := oe
          padLen := (pad msg (effK c k)).2 } := by
  unfold prepareDecode
  simp only [shift_eq]

/-- `WithinCap` in its one form: erasure handling off is an empty erasure list -/
theorem withinCap_bound {α : Type} [DecidableEq α] {word cw : List α} {nsym : Nat}
    {E : Option (List Nat)} {oe : Bool} (h : WithinCap word cw nsym E oe)
    (hl : word.length = cw.length) :
    2 * errorsOutside word cw (E.getD []) + (E.getD []).length ≤ nsym := by
  cases E with
  | none => simpa [errorsOutside_nil _ _ hl] using h.2
  | some l =>
    have := h.2.2
    cases oe
    · simpa using this
    · simp only [↓reduceIte] at this; simp only [Option.getD_some]; omega

/-! ### exact decoding under contract W -/

theorem decode_of_call (c : Codec F) (hc : GoodCodec c) (core : Core F) (hW : CoreW c core)
    (msg : List F) (k : Nat) (hm : msg.length ≤ effK c k) (hk : effK c k ≤ c.n)
    (msg' ecc' : List F) (hl : msg'.length = msg.length) (he : ecc'.length = c.n - effK c k)
    (ee : Bool) (ec : F) (oe : Bool) (E : Option (List Nat))
    (hprep : prepareDecode c msg' ecc' k ee ec oe = some
      { word := (pad msg' (effK c k)).1 ++ ecc', nsym := c.n - effK c k, erasePos := E,
        onlyErasures := oe, padLen := effK c k - msg.length })
    (hcap : WithinCap ((pad msg' (effK c k)).1 ++ ecc') ((pad msg (effK c k)).1 ++ encode c msg k)
      (c.n - effK c k) E oe) :
    decode core c msg' ecc' k ee ec oe = .ok (msg, encode c msg k) := by
  have hlenc : (encode c msg k).length = c.n - effK c k := length_encode c hc msg k
  have hpl : (pad msg (effK c k)).1.length = effK c k := length_pad_fst _ _ hm
  have hpl' : (pad msg' (effK c k)).1.length = effK c k := length_pad_fst _ _ (hl ▸ hm)
  obtain ⟨er, hcore, her⟩ := hW ((pad msg' (effK c k)).1 ++ ecc')
    ((pad msg (effK c k)).1 ++ encode c msg k) (c.n - effK c k) E oe
    (by simp [hpl', he]; omega) (by simp [hpl, hlenc]; omega) (Nat.sub_le _ _)
    (encode_codeword c hc msg k) hcap
  have hnk : c.n - (c.n - effK c k) = effK c k := by omega
  rw [hnk] at hcore her
  rw [List.take_left' hpl] at hcore
  rw [List.drop_left' hpl] at her
  unfold decode
  rw [hprep]
  simp only [hcore]
  have hmsg : (pad msg (effK c k)).1.drop (effK c k - msg.length) = msg := by
    rw [pad_fst, List.drop_left' (by simp)]
  have her' : (if c.algo = 1 ∨ c.algo = 2 then
      List.replicate (c.n - effK c k - er.length) 0 ++ er else er) = encode c msg k := by
    rcases her with h | ⟨ha, _, h⟩
    · subst h; rw [hlenc, Nat.sub_self]; simp
    · rw [if_pos ha, h]
  rw [hmsg, her']
  have hlen : ((pad msg' (effK c k)).1 ++ ecc').length =
      ((pad msg (effK c k)).1 ++ encode c msg k).length := by
    rw [List.length_append, List.length_append, hpl, hpl', he, hlenc]
  have hguard := withinCap_bound hcap hlen
  rw [← correctedErrors_eq_errorsOutside _ _ _ hlen] at hguard
  rw [if_neg (by omega)]

/-- exact decoding under contract W, erasure handling on or off: `l` is the list of detected
erasures (empty when off) -/
theorem decode_exact (c : Codec F) (hc : GoodCodec c) (core : Core F) (hW : CoreW c core)
    (msg : List F) (k : Nat) (hm : msg.length ≤ effK c k) (hk : effK c k ≤ c.n)
    (msg' ecc' : List F) (hl : msg'.length = msg.length) (he : ecc'.length = c.n - effK c k)
    (en : Bool) (ec : F) (l : List Nat)
    (hl' : l = if en then (List.range (msg' ++ ecc').length).filter
      (fun i => (msg' ++ ecc')[i]? = some ec) else [])
    (hcap : 2 * errorsOutside (msg' ++ ecc') (msg ++ encode c msg k) l + l.length ≤ c.n - effK c k) :
    decode core c msg' ecc' k en ec false = .ok (msg, encode c msg k) := by
  have hlen : (msg' ++ ecc').length = (msg ++ encode c msg k).length := by
    rw [List.length_append, List.length_append, hl, he, length_encode c hc msg k]
  apply decode_of_call c hc core hW msg k hm hk msg' ecc' hl he en ec false
    (if en then some (l.map (· + (effK c k - msg.length))) else none)
  · rw [prepareDecode_eq, rpad_of_length _ _ _ he, pad_snd, hl, hl']
    cases en <;> simp
  · rw [pad_fst, pad_fst, hl, List.append_assoc, List.append_assoc]
    have hsh := errorsOutside_append (List.replicate (effK c k - msg.length) (0 : F)) _
      (msg' ++ ecc') (msg ++ encode c msg k) l rfl
    rw [List.length_replicate, hdist_self, Nat.zero_add] at hsh
    cases en
    · rw [if_neg (by simp)] at hl' ⊢
      rw [hl', errorsOutside_nil _ _ hlen] at hcap
      exact ⟨rfl, by rw [hdist_append_left]; simpa using hcap⟩
    · rw [if_pos rfl] at hl' ⊢
      refine ⟨?_, ?_, ?_⟩
      · rw [hl']
        exact (List.nodup_range.filter _).map (fun a b h => Nat.add_right_cancel h)
      · intro i hi
        obtain ⟨j, hj, rfl⟩ := List.mem_map.mp hi
        rw [hl'] at hj
        have := List.mem_range.mp (List.mem_filter.mp hj).1
        simp only [List.length_append, List.length_replicate] at this ⊢
        omega
      · simpa [hsh] using hcap

end Pff.RSProofs
