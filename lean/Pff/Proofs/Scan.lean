import Pff.Model.Scan
/-! Helper lemmas for C14 (entry scanning). -/
namespace Pff.Scan

/-- `sub` occurs in `buf` at position `i` -/
abbrev Occ (sub buf : Bytes) (i : Nat) : Prop := sub.isPrefixOf (buf.drop i) = true

variable {sub buf marker stream : Bytes} {b b' i p bs : Nat}

theorem Occ.le (hm : 0 < sub.length) (h : Occ sub buf i) : i + sub.length ≤ buf.length := by
  have := (List.isPrefixOf_iff_prefix.1 h).length_le
  rw [List.length_drop] at this
  omega

/-- `find` returns the least occurrence at or after `b` -/
theorem find_eq_some_iff (hm : 0 < sub.length) :
    find sub buf b = some i ↔ Occ sub buf i ∧ b ≤ i ∧ ∀ j, b ≤ j → Occ sub buf j → i ≤ j := by
  unfold find
  rw [List.find?_range'_eq_some]
  simp only [List.mem_range', Bool.not_eq_true', Nat.one_mul]
  constructor
  · rintro ⟨h1, ⟨k, hk, rfl⟩, h3⟩
    refine ⟨h1, by omega, fun j hj hocc => Nat.le_of_not_lt fun hlt => ?_⟩
    rw [Occ, h3 j hj hlt] at hocc
    cases hocc
  · rintro ⟨h1, h2, h3⟩
    have := h1.le hm
    refine ⟨h1, ⟨i - b, by omega, by omega⟩, fun j hj hlt => ?_⟩
    cases hocc : sub.isPrefixOf (buf.drop j) with
    | false => rfl
    | true => have := h3 j hj hocc; omega

theorem find_eq_none_iff (hm : 0 < sub.length) :
    find sub buf b = none ↔ ∀ j, b ≤ j → ¬ Occ sub buf j := by
  unfold find
  rw [List.find?_range'_eq_none]
  simp only [Bool.not_eq_true', ← Bool.not_eq_true]
  constructor
  · intro h j h1 hocc
    have := hocc.le hm
    exact h j h1 (by omega) hocc
  · intro h j h1 _
    exact h j h1

/-- skipping a stretch without occurrences does not change the result -/
theorem find_skip (hm : 0 < sub.length) (hb : b ≤ b')
    (h : ∀ j, b ≤ j → Occ sub buf j → b' ≤ j) : find sub buf b = find sub buf b' := by
  cases h' : find sub buf b' with
  | none =>
    rw [find_eq_none_iff hm] at h' ⊢
    exact fun j hj hocc => h' j (h j hj hocc) hocc
  | some i =>
    rw [find_eq_some_iff hm] at h' ⊢
    exact ⟨h'.1, by omega, fun j hj hocc => h'.2.2 j (h j hj hocc) hocc⟩

/-- occurrences inside a read window -/
theorem occ_window (hm : 0 < marker.length) :
    Occ marker ((stream.drop p).take bs) i ↔ Occ marker stream (p + i) ∧ i + marker.length ≤ bs := by
  rw [Occ, Occ, List.drop_take, List.drop_drop, List.isPrefixOf_iff_prefix, List.isPrefixOf_iff_prefix,
    List.prefix_take_iff]
  constructor
  · rintro ⟨h1, h2⟩
    exact ⟨h1, by omega⟩
  · rintro ⟨h1, h2⟩
    exact ⟨h1, by omega⟩

/-- an occurrence found in a read window is the next occurrence in the stream -/
theorem window_find_some {e : Nat} (hm : 0 < marker.length)
    (h : find marker ((stream.drop p).take bs) b = some e) :
    find marker stream (p + b) = some (p + e) ∧ b ≤ e ∧ e + marker.length ≤ bs := by
  rw [find_eq_some_iff hm] at h ⊢
  obtain ⟨h1, h2, h3⟩ := h
  rw [occ_window hm] at h1
  refine ⟨⟨h1.1, by omega, fun j hj hocc => Nat.le_of_not_lt fun hlt => ?_⟩, h2, h1.2⟩
  have := h3 (j - p) (by omega) ((occ_window hm).2 ⟨by rwa [Nat.add_sub_cancel' (by omega)], by omega⟩)
  omega

/-- nothing found in a read window: every later occurrence sticks out of the window -/
theorem window_find_none {q : Nat} (hm : 0 < marker.length)
    (h : find marker ((stream.drop p).take bs) b = none) (hq : p + b ≤ q) (hocc : Occ marker stream q) :
    p + bs < q + marker.length := by
  rw [find_eq_none_iff hm] at h
  refine Nat.lt_of_not_le fun hle => h (q - p) (by omega) ((occ_window hm).2 ⟨?_, by omega⟩)
  rwa [Nat.add_sub_cancel' (by omega)]

/-- … so when the window reaches the end of the stream there is none -/
theorem window_find_none_end (hm : 0 < marker.length)
    (h : find marker ((stream.drop p).take bs) b = none) (hend : stream.length ≤ p + bs) :
    find marker stream (p + b) = none := by
  rw [find_eq_none_iff hm]
  intro q hq hocc
  have := window_find_none hm h hq hocc
  have := hocc.le hm
  omega

/-! ## one loop iteration, case by case -/

section steps
variable (stream marker : Bytes) (bs p : Nat)

theorem length_window_short (hp : p ≤ stream.length) (hs : stream.length < p + bs) :
    ((stream.drop p).take bs).length < bs ∧ p + ((stream.drop p).take bs).length = stream.length := by
  rw [List.length_take, List.length_drop]; omega

theorem length_window_full (hs : p + bs ≤ stream.length) : ((stream.drop p).take bs).length = bs := by
  rw [List.length_take, List.length_drop]; omega

theorem step1_none_short (h : find marker ((stream.drop p).take bs) 0 = none)
    (hp : p ≤ stream.length) (hs : stream.length < p + bs) :
    scanStep false stream marker bs ⟨none, none, none, p⟩ = .stop stream.length := by
  obtain ⟨h1, h2⟩ := length_window_short stream bs p hp hs
  simp only [scanStep, h, h1, h2, if_true]

theorem step1_none_full (h : find marker ((stream.drop p).take bs) 0 = none)
    (hs : p + bs ≤ stream.length) :
    scanStep false stream marker bs ⟨none, none, none, p⟩ =
      .continue ⟨none, none, none, p + bs - marker.length⟩ := by
  simp only [scanStep, h, length_window_full stream bs p hs, Nat.lt_irrefl, if_true, if_false]

/-- once the start marker is found (at `s` in the window) the iteration goes on exactly as one that
started with `startcursor = p + s` -/
theorem step1_some {s : Nat} (hm : 0 < marker.length)
    (h : find marker ((stream.drop p).take bs) 0 = some s) :
    scanStep false stream marker bs ⟨none, none, none, p⟩ =
      scanStep false stream marker bs ⟨some 0, some (p + s), none, p⟩ := by
  obtain ⟨m, hm'⟩ : ∃ m, marker.length = m + 1 := ⟨marker.length - 1, by omega⟩
  have h1 : max (s + m + 1) (p + s + m + 1 - p) = s + m + 1 := by omega
  have h2 : max 0 (p + s + m + 1 - p) = s + m + 1 := by omega
  simp only [scanStep, h]
  generalize (stream.drop p).take bs = B
  simp only [hm', Option.getD_some, ← Nat.add_assoc, h1, h2, Bool.false_eq_true, if_false]

theorem step2_some {sc e : Nat}
    (h : find marker ((stream.drop p).take bs) (sc + marker.length - p) = some e) (hlt : sc < p + e) :
    scanStep false stream marker bs ⟨some 0, some sc, none, p⟩ =
      .found (sc + marker.length) (p + e) := by
  simp only [scanStep]
  generalize (stream.drop p).take bs = B at h ⊢
  simp [h, hlt]

theorem step2_none_short {sc : Nat}
    (h : find marker ((stream.drop p).take bs) (sc + marker.length - p) = none)
    (hp : p ≤ stream.length) (hs : stream.length < p + bs) (hlt : sc < stream.length) :
    scanStep false stream marker bs ⟨some 0, some sc, none, p⟩ =
      .found (sc + marker.length) stream.length := by
  obtain ⟨h1, h2⟩ := length_window_short stream bs p hp hs
  simp only [scanStep]
  generalize (stream.drop p).take bs = B at h h1 h2 ⊢
  simp [h, h1, h2, hlt]

theorem step2_none_full {sc : Nat}
    (h : find marker ((stream.drop p).take bs) (sc + marker.length - p) = none)
    (hs : p + bs ≤ stream.length) :
    scanStep false stream marker bs ⟨some 0, some sc, none, p⟩ =
      .continue ⟨some 0, some sc, none, p + bs - marker.length⟩ := by
  have h1 := length_window_full stream bs p hs
  simp only [scanStep]
  generalize (stream.drop p).take bs = B at h h1 ⊢
  simp [h, h1]

end steps

/-! ## the loop -/

/-- second phase: the start marker was found at `sc`; no end marker in `[sc + |marker|, p)` -/
theorem loop2 (stream marker : Bytes) (bs : Nat) (hm : 0 < marker.length) (hbs : marker.length < bs) :
    ∀ fuel p sc, p ≤ stream.length → stream.length - p < fuel → sc + marker.length ≤ stream.length →
      (∀ q, sc + marker.length ≤ q → Occ marker stream q → p ≤ q) →
      scanLoop false stream marker bs fuel ⟨some 0, some sc, none, p⟩ =
        (some (sc + marker.length, (find marker stream (sc + marker.length)).getD stream.length),
          sc + marker.length) := by
  intro fuel
  induction fuel with
  | zero => intro p sc _ h; omega
  | succ fuel ih =>
    intro p sc hp hfuel hscm hinv
    have hskip : find marker stream (sc + marker.length) =
        find marker stream (p + (sc + marker.length - p)) :=
      find_skip hm (by omega) fun j h1 hocc => by have := hinv j h1 hocc; omega
    rw [scanLoop, hskip]
    cases h : find marker ((stream.drop p).take bs) (sc + marker.length - p) with
    | some e =>
      obtain ⟨w1, w2, _⟩ := window_find_some hm h
      rw [step2_some _ _ _ _ h (by omega), w1]
      rfl
    | none =>
      by_cases hs : p + bs ≤ stream.length
      · rw [step2_none_full _ _ _ _ h hs, ← hskip]
        refine ih _ sc (by omega) (by omega) hscm fun q hq hocc => ?_
        have := hinv q hq hocc
        have := window_find_none hm h (by omega) hocc
        omega
      · rw [step2_none_short _ _ _ _ h hp (by omega) (by omega), window_find_none_end hm h (by omega)]
        rfl

/-- first phase: no start marker yet -/
theorem loop1 (stream marker : Bytes) (bs : Nat) (hm : 0 < marker.length) (hbs : marker.length < bs) :
    ∀ fuel p, p ≤ stream.length → stream.length - p < fuel →
      scanLoop false stream marker bs fuel ⟨none, none, none, p⟩ =
        match specNext stream marker p with
        | some (a, b) => (some (a, b), a)
        | none => (none, stream.length) := by
  intro fuel
  induction fuel with
  | zero => intro p _ h; omega
  | succ fuel ih =>
    intro p hp hfuel
    cases h : find marker ((stream.drop p).take bs) 0 with
    | none =>
      rw [scanLoop]
      by_cases hs : p + bs ≤ stream.length
      · have hskip : find marker stream p = find marker stream (p + bs - marker.length) :=
          find_skip hm (by omega) fun j h1 hocc => by
            have := window_find_none hm h h1 hocc
            omega
        rw [step1_none_full _ _ _ _ h hs]
        simp only
        rw [ih _ (by omega) (by omega)]
        simp only [specNext, hskip]
      · have hn := window_find_none_end hm h (by omega)
        rw [Nat.add_zero] at hn
        rw [step1_none_short _ _ _ _ h hp (by omega)]
        simp only [specNext, hn]
    | some s =>
      obtain ⟨w1, _, w2⟩ := window_find_some hm h
      rw [Nat.add_zero] at w1
      have hocc := ((find_eq_some_iff hm).1 w1).1.le hm
      rw [scanLoop, step1_some _ _ _ _ hm h, ← scanLoop,
        loop2 stream marker bs hm hbs (fuel + 1) p (p + s) hp hfuel hocc fun q hq _ => by omega]
      simp only [specNext, w1]

theorem getNextEntry_eq_spec (stream marker : Bytes) (blocksize pos : Nat) (hm : 0 < marker.length)
    (hpos : pos ≤ stream.length) :
    getNextEntry false stream marker blocksize pos =
      match specNext stream marker pos with
      | some (a, b) => (some (a, b), a)
      | none => (none, stream.length) := by
  unfold getNextEntry
  exact loop1 stream marker _ hm (by split <;> omega) _ pos hpos (by omega)

/-! ## repeated calls -/

theorem specNext_le {pos a b : Nat} (hm : 0 < marker.length)
    (h : specNext stream marker pos = some (a, b)) : a ≤ stream.length := by
  unfold specNext at h
  split at h
  · cases h
  · rename_i s hs
    have := ((find_eq_some_iff hm).1 hs).1.le hm
    cases h
    omega

theorem scanAll_eq_specAll (stream marker : Bytes) (blocksize : Nat) (hm : 0 < marker.length) :
    ∀ fuel pos, pos ≤ stream.length →
      scanAll false stream marker blocksize fuel pos = specAll stream marker fuel pos := by
  intro fuel
  induction fuel with
  | zero => intro pos _; rfl
  | succ fuel ih =>
    intro pos hpos
    rw [scanAll, specAll, getNextEntry_eq_spec stream marker blocksize pos hm hpos]
    cases h : specNext stream marker pos with
    | none => rfl
    | some ab => simp only [ih ab.1 (specNext_le hm h)]

/-! ## generated streams -/

/-- the marker offsets of the intended entries -/
def starts (marker : Bytes) (off : Nat) (es : List Bytes) : List Nat :=
  (intended marker off es).map (fun ab => ab.1 - marker.length)

theorem starts_nil (marker : Bytes) (off : Nat) : starts marker off [] = [] := rfl

theorem starts_cons (marker : Bytes) (off : Nat) (e : Bytes) (es : List Bytes) :
    starts marker off (e :: es) = off :: starts marker (off + marker.length + e.length) es := by
  simp [starts, intended]

theorem le_of_mem_starts {es : List Bytes} :
    ∀ {off i : Nat}, i ∈ starts marker off es → off ≤ i := by
  induction es with
  | nil => intro off i h; cases h
  | cons e es ih =>
    intro off i h
    rw [starts_cons, List.mem_cons] at h
    rcases h with h | h
    · omega
    · have := ih h
      omega

/-- From the cursor `p` on, `S` looks like a stream generated from the entries `es`, the first
marker sitting at `off`: the markers occur exactly at the intended positions, and `S` ends with the
last entry.  (The invariant of every loop over the entries of a generated stream.) -/
structure Built (S marker : Bytes) (p off : Nat) (es : List Bytes) : Prop where
  le : p ≤ off
  len : off + ((es.map (fun e => marker ++ e)).flatten).length = S.length
  occ : ∀ i, p ≤ i → (Occ marker S i ↔ i ∈ starts marker off es)

theorem mem_occurrences (hm : 0 < marker.length) :
    i ∈ occurrences stream marker ↔ Occ marker stream i := by
  unfold occurrences
  rw [List.mem_filter, List.mem_range]
  exact ⟨fun h => h.2, fun h => ⟨by have := h.le hm; omega, h⟩⟩

theorem Built.of_noAccidental {pre : Bytes} {es : List Bytes} (hm : 0 < marker.length)
    (h : NoAccidental pre marker es) : Built (build pre marker es) marker 0 pre.length es where
  le := Nat.zero_le _
  len := by rw [build, List.length_append]
  occ i _ := by rw [← mem_occurrences hm]; exact h ▸ Iff.rfl

namespace Built
variable {S : Bytes} {off : Nat} {e : Bytes} {es : List Bytes}

theorem find_nil (hm : 0 < marker.length) (h : Built S marker p off []) : find marker S p = none :=
  (find_eq_none_iff hm).2 fun j hj hocc => by cases (h.occ j hj).1 hocc

theorem find_cons (hm : 0 < marker.length) (h : Built S marker p off (e :: es)) :
    find marker S p = some off := by
  rw [find_eq_some_iff hm]
  refine ⟨(h.occ off h.le).2 ?_, h.le, fun j hj hocc => le_of_mem_starts ((h.occ j hj).1 hocc)⟩
  rw [starts_cons]
  exact List.mem_cons_self ..

/-- the cursor may be anywhere inside the entry that was just returned -/
theorem tail (hm : 0 < marker.length) (h : Built S marker p off (e :: es)) {p' : Nat}
    (h1 : off + marker.length ≤ p') (h2 : p' ≤ off + marker.length + e.length) :
    Built S marker p' (off + marker.length + e.length) es where
  le := h2
  len := by
    have := h.len
    simp only [List.map_cons, List.flatten_cons, List.length_append] at this
    omega
  occ i hi := by
    have := h.le
    rw [h.occ i (by omega), starts_cons, List.mem_cons]
    exact ⟨fun h' => h'.resolve_left (by omega), Or.inr⟩

theorem specNext_nil (hm : 0 < marker.length) (h : Built S marker p off []) :
    specNext S marker p = none := by
  simp only [specNext, h.find_nil hm]

theorem specNext_cons (hm : 0 < marker.length) (h : Built S marker p off (e :: es)) :
    specNext S marker p = some (off + marker.length, off + marker.length + e.length) := by
  have ht := h.tail hm (Nat.le_refl _) (Nat.le_add_right _ _)
  have ht' := h.tail hm (Nat.le_add_right _ _) (Nat.le_refl _)
  have hskip : find marker S (off + marker.length) = find marker S (off + marker.length + e.length) :=
    find_skip hm (Nat.le_add_right _ _) fun j hj hocc => le_of_mem_starts ((ht.occ j hj).1 hocc)
  simp only [specNext, h.find_cons hm, hskip]
  cases es with
  | nil => simp only [ht'.find_nil hm, Option.getD_none, ← ht'.len]; rfl
  | cons e' es' => simp only [ht'.find_cons hm, Option.getD_some]

/-- the declarative scan of a generated stream, with any sufficient fuel -/
theorem specAll (hm : 0 < marker.length) : ∀ {es : List Bytes} {p off fuel : Nat},
    Built S marker p off es → es.length < fuel → specAll S marker fuel p = intended marker off es := by
  intro es
  induction es with
  | nil =>
    intro p off fuel h hf
    obtain ⟨f, rfl⟩ := Nat.exists_eq_add_one_of_ne_zero (Nat.ne_of_gt hf)
    rw [Scan.specAll, h.specNext_nil hm]
    rfl
  | cons e es ih =>
    intro p off fuel h hf
    obtain ⟨f, rfl⟩ := Nat.exists_eq_add_one_of_ne_zero (Nat.ne_of_gt (Nat.zero_lt_of_lt hf))
    rw [Scan.specAll, h.specNext_cons hm]
    simp only [intended, ih (h.tail hm (Nat.le_refl _) (Nat.le_add_right _ _)) (Nat.lt_of_succ_lt_succ hf)]

theorem length_le (hm : 0 < marker.length) : ∀ {es : List Bytes} {p off : Nat},
    Built S marker p off es → off + es.length ≤ S.length := by
  intro es
  induction es with
  | nil => intro p off h; have := h.len; simp only [List.map_nil, List.flatten_nil, List.length_nil] at this ⊢; omega
  | cons e es ih =>
    intro p off h
    have := ih (h.tail hm (Nat.le_refl _) (Nat.le_add_right _ _))
    simp only [List.length_cons]
    omega

end Built

theorem specAll_intended (pre marker : Bytes) (entries : List Bytes) (hm : 0 < marker.length)
    (h : NoAccidental pre marker entries) :
    specAll (build pre marker entries) marker (entries.length + 1) 0 =
      intended marker pre.length entries :=
  (Built.of_noAccidental hm h).specAll hm (Nat.lt_succ_self _)

theorem build_cons (pre marker e : Bytes) (es : List Bytes) :
    build (pre ++ marker ++ e) marker es = build pre marker (e :: es) := by
  simp [build]

/-- content mode on a generated stream -/
theorem content_built (marker : Bytes) (entries : List Bytes) : ∀ pre : Bytes,
    (intended marker pre.length entries).map
        (fun ab => ((build pre marker entries).drop ab.1).take (ab.2 - ab.1)) = entries := by
  induction entries with
  | nil => intro pre; rfl
  | cons e es ih =>
    intro pre
    have h2 := ih (pre ++ marker ++ e)
    rw [build_cons] at h2
    simp only [List.length_append] at h2
    simp only [intended, List.map_cons]
    rw [h2]
    congr 1
    simp [build]

/-- the scan of a generated stream with the fuel used by the tools' loop -/
theorem scanAll_built_fuel (pre mk : List Nat) (es : List (List Nat)) (blocksize : Nat)
    (hm : 0 < mk.length) (h : NoAccidental pre mk es) :
    scanAll false (build pre mk es) mk blocksize ((build pre mk es).length + 2) 0 =
      intended mk pre.length es := by
  have hB := Built.of_noAccidental hm h
  have := hB.length_le hm
  rw [scanAll_eq_specAll _ _ _ hm _ _ (Nat.zero_le _), hB.specAll hm (by omega)]

end Pff.Scan

/-! ### `occurrences` in one pass

For kernel evaluation on a concrete stream: `occurrences` drops `i` bytes for every position `i`,
the walk below looks at every suffix once. -/
namespace Pff.Scan

def occWalk (marker : Bytes) : Bytes → Nat → List Nat
  | [], i => if marker.isPrefixOf [] then [i] else []
  | x :: tl, i =>
    if marker.isPrefixOf (x :: tl) then i :: occWalk marker tl (i + 1) else occWalk marker tl (i + 1)

theorem range_filter_succ (p : Nat → Bool) (n : Nat) :
    (List.range (n + 1)).filter p =
      (if p 0 then [0] else []) ++ ((List.range n).filter (fun j => p (j + 1))).map (· + 1) := by
  rw [List.range_succ_eq_map, List.filter_cons, List.filter_map]
  split <;> rfl

theorem occWalk_eq (marker : Bytes) : ∀ (s : Bytes) (i : Nat),
    occWalk marker s i =
      ((List.range (s.length + 1)).filter (fun j => marker.isPrefixOf (s.drop j))).map (· + i) := by
  intro s
  induction s with
  | nil =>
    intro i
    rw [occWalk, List.length_nil, range_filter_succ]
    cases h : marker.isPrefixOf [] <;> simp [h]
  | cons x tl ih =>
    intro i
    rw [occWalk, List.length_cons, range_filter_succ, ih]
    have hm : (fun j => j + i) ∘ (fun j => j + 1) = fun j => j + (i + 1) := by
      funext j; show j + 1 + i = j + (i + 1); omega
    simp only [List.drop_zero, List.drop_succ_cons, List.map_append, List.map_map, hm]
    cases marker.isPrefixOf (x :: tl) <;> simp

theorem occurrences_eq_walk (stream marker : Bytes) : occurrences stream marker = occWalk marker stream 0 := by
  rw [occWalk_eq, occurrences]; simp

end Pff.Scan
