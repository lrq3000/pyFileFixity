import Pff.Model.GF
/-!
Kernel-checked finite facts about the packed GF(2^8) tables of `Pff/Model/GF.lean`
(`decide +kernel`, no extra axiom): `exp`/`log` are mutually inverse bijections between `[0,255)`
and `[1,256)`, multiplication by the generator is additive, and the `exp` table is the orbit of the
generator under carry-less multiplication modulo the primitive polynomial. Additivity (`chkL`,
65 536 pairs) is not swept: 256 evaluations show that multiplication by the generator is the XOR of
its values at the set bits of the argument (`chkLin`), and such a map is additive (`bitLin_xor`).
Core Lean only.
-/
namespace Pff.GFProofs

open Pff.GF

/-! ### bounded universal quantifier evaluated by the kernel -/

def allLt (n : Nat) (p : Nat → Bool) : Bool := Nat.rec true (fun i acc => acc && p i) n

theorem allLt_spec {n : Nat} {p : Nat → Bool} (h : allLt n p = true) : ∀ i, i < n → p i = true := by
  induction n with
  | zero => intro i hi; omega
  | succ n ih =>
    intro i hi
    have h' : (allLt n p && p n) = true := h
    rw [Bool.and_eq_true] at h'
    rcases Nat.lt_succ_iff_lt_or_eq.mp hi with hlt | heq
    · exact ih h'.1 i hlt
    · subst heq; exact h'.2

theorem allLt_of {n : Nat} {p : Nat → Bool} (h : ∀ i, i < n → p i = true) : allLt n p = true := by
  induction n with
  | zero => rfl
  | succ n ih =>
    show (allLt n p && p n) = true
    rw [ih fun i hi => h i (Nat.lt_succ_of_lt hi), h n (Nat.lt_succ_self n)]; rfl

def chkE1 (p : Params) : Bool :=
  allLt 255 fun i => glog p (gexp p i) == i && gexp p i != 0 && decide (gexp p i < 256)
def chkE2 (p : Params) : Bool :=
  allLt 256 fun a => a == 0 || (gexp p (glog p a) == a && decide (glog p a < 255))
def chkL (p : Params) : Bool :=
  allLt 256 fun b => allLt 256 fun c =>
    tmul p (gexp p 1) (b ^^^ c) == (tmul p (gexp p 1) b ^^^ tmul p (gexp p 1) c)
def chkTie (p : Params) : Bool :=
  allLt 254 fun i => gexp p (i + 1) == clmulmod p.prim 8 (gexp p i) p.gen

/-- XOR of `t i` over the set bits `i < n` of `b`: the GF(2)-linear map with value `t i` at `2^i` -/
def bitLin (t : Nat → Nat) : Nat → Nat → Nat
  | 0, _ => 0
  | n + 1, b => (if b.testBit n then t n else 0) ^^^ bitLin t n b

theorem bitLin_xor (t : Nat → Nat) (n b c : Nat) :
    bitLin t n (b ^^^ c) = bitLin t n b ^^^ bitLin t n c := by
  induction n with
  | zero => exact (Nat.xor_self 0).symm
  | succ n ih =>
    have hd : (if (b.testBit n ^^ c.testBit n) then t n else 0) =
        (if b.testBit n then t n else 0) ^^^ (if c.testBit n then t n else 0) := by
      cases b.testBit n <;> cases c.testBit n <;> simp
    simp only [bitLin, ih, Nat.testBit_xor, hd]
    ac_rfl

def chkLin (p : Params) : Bool :=
  allLt 256 fun b => tmul p (gexp p 1) b == bitLin (fun i => tmul p (gexp p 1) (2 ^ i)) 8 b

theorem chkL_of_chkLin {p : Params} (h : chkLin p = true) : chkL p = true := by
  refine allLt_of fun b hb => allLt_of fun c hc => ?_
  have hbc : b ^^^ c < 2 ^ 8 := Nat.xor_lt_two_pow hb hc
  rw [beq_iff_eq, eq_of_beq (allLt_spec h _ hbc), eq_of_beq (allLt_spec h _ hb),
    eq_of_beq (allLt_spec h _ hc), bitLin_xor]

/-- the finite table facts everything else is derived from -/
structure TableFacts (p : Params) : Prop where
  e1 : chkE1 p = true
  e2 : chkE2 p = true
  lg : chkL p = true
  gexp_zero : gexp p 0 = 1

theorem chkE1_A : chkE1 pA = true := by decide +kernel
theorem chkE2_A : chkE2 pA = true := by decide +kernel
theorem chkL_A : chkL pA = true := chkL_of_chkLin (by decide +kernel)
theorem chkTie_A : chkTie pA = true := by decide +kernel
theorem gexp_zero_A : gexp pA 0 = 1 := by decide +kernel
theorem chkE1_B : chkE1 pB = true := by decide +kernel
theorem chkE2_B : chkE2 pB = true := by decide +kernel
theorem chkL_B : chkL pB = true := chkL_of_chkLin (by decide +kernel)
theorem chkTie_B : chkTie pB = true := by decide +kernel
theorem gexp_zero_B : gexp pB 0 = 1 := by decide +kernel

theorem factsA : TableFacts pA := ⟨chkE1_A, chkE2_A, chkL_A, gexp_zero_A⟩
theorem factsB : TableFacts pB := ⟨chkE1_B, chkE2_B, chkL_B, gexp_zero_B⟩

end Pff.GFProofs
