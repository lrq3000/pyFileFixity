import Pff.Props.RSSpec
import Pff.Proofs.GF
import Pff.Proofs.RSCore
import Pff.Proofs.RSDist
/-! Helper lemmas for the Reed–Solomon layer (C02, C11, C12): field laws of GF(2^8) from the
tables, generator polynomial roots, encoders produce codewords, minimum distance, uniqueness. -/
namespace Pff.RSProofs

open Pff.RS Pff.Facade Pff.GF Pff.RSSpec Pff.GFProofs

/-- the field of codecs 1–3 -/
@[reducible] def fieldA : Field (Elt pA) := fieldOf pA factsA
/-- the field of codec 4 -/
@[reducible] def fieldB : Field (Elt pB) := fieldOf pB factsB

theorem goodCodec_of (p : Params) (H : TableFacts p) (c : Codec (Elt p)) (hpw : c.pw = Elt.gpow p)
    (halgo : c.algo = 1 ∨ c.algo = 2 ∨ c.algo = 3 ∨ c.algo = 4) (hn : c.n ≤ 255) :
    @GoodCodec (Elt p) (fieldOf p H) inferInstance c := by
  let _ := fieldOf p H
  refine ⟨elt_char2, halgo, ⟨Elt.gpow p 1, gpow_one_ne_zero H, ?_, ?_⟩, hn⟩
  · intro i; rw [hpw]; exact gpow_eq_pow H i
  · intro i j hi hj h
    have hi' := gpow_eq_pow H i
    have hj' := gpow_eq_pow H j
    exact gpow_inj H hi hj (by rw [hi', hj']; exact h)

/-! ### facade level, generic field -/
section Facade

set_option linter.unusedSectionVars false

variable {F : Type} [Field F] [DecidableEq F]

theorem pad_fst (msg : List F) (k : Nat) :
    (pad msg k).1 = List.replicate (k - msg.length) 0 ++ msg := by
  unfold pad
  split
  · rfl
  · next h => simp [Nat.sub_eq_zero_of_le (Nat.le_of_not_lt h)]

theorem pad_snd (msg : List F) (k : Nat) : (pad msg k).2 = k - msg.length := by
  unfold pad
  split
  · rfl
  · next h => simp [Nat.sub_eq_zero_of_le (Nat.le_of_not_lt h)]

theorem length_pad_fst (msg : List F) (k : Nat) (h : msg.length ≤ k) :
    (pad msg k).1.length = k := by
  rw [pad_fst]; simp; omega

theorem rpad_eq (ecc : List F) (n k : Nat) :
    rpad ecc n k = ecc ++ List.replicate (n - k - ecc.length) 0 := by
  unfold rpad
  split
  · rfl
  · next h => simp [Nat.sub_eq_zero_of_le (Nat.le_of_not_lt h)]

theorem rpad_of_length (ecc : List F) (n k : Nat) (h : ecc.length = n - k) : rpad ecc n k = ecc := by
  rw [rpad_eq, h, Nat.sub_self]; simp

theorem encode_eq (c : Codec F) (msg : List F) (k : Nat) :
    encode c msg k = libParity c (effK c k) (pad msg (effK c k)).1 := rfl

theorem check_eq (c : Codec F) (msg ecc : List F) (k : Nat) :
    check c msg ecc k =
      rsCheck c.pw c.fcr (c.n - effK c k) ((pad msg (effK c k)).1 ++ rpad ecc c.n (effK c k)) := rfl

theorem libParity_isRem (char2 : ∀ a : F, a + a = 0) (c : Codec F) (k : Nat) (m : List F) :
    IsRem (genPoly c.pw c.fcr (c.n - k)) m (libParity c k m) := by
  obtain ⟨t, ht⟩ := genPoly_monic c.pw c.fcr (c.n - k)
  unfold libParity
  simp only [ht]
  split
  · exact longDivEncode_isRem char2 t m
  · split
    · exact fastModEncode_isRem char2 t m
    · exact lfsrEncode_isRem char2 t m

theorem length_encode (c : Codec F) (hc : GoodCodec c) (msg : List F) (k : Nat) :
    (encode c msg k).length = c.n - effK c k := by
  rw [encode_eq, (libParity_isRem hc.char2 c _ _).1, length_genPoly]; simp

theorem encode_codeword (c : Codec F) (hc : GoodCodec c) (msg : List F) (k : Nat) :
    rsCheck c.pw c.fcr (c.n - effK c k) ((pad msg (effK c k)).1 ++ encode c msg k) = true := by
  rw [rsCheck_iff]
  intro i hi
  exact (libParity_isRem hc.char2 c _ _).codeword hc.char2 (genPoly_root hc.char2 _ _ _ _ hi)

theorem check_encode (c : Codec F) (hc : GoodCodec c) (msg : List F) (k : Nat) :
    check c msg (encode c msg k) k = true := by
  rw [check_eq, rpad_of_length _ _ _ (length_encode c hc msg k)]
  exact encode_codeword c hc msg k

theorem length_rpad (ecc : List F) (n k : Nat) (h : ecc.length ≤ n - k) :
    (rpad ecc n k).length = n - k := by
  rw [rpad_eq, List.length_append, List.length_replicate]; omega

/-- the minimum distance at the level of `check`: two (message, parity) pairs of the same lengths
that both pass, at distance at most `n - k`, coincide -/
theorem check_min_distance (c : Codec F) (hc : GoodCodec c) (k : Nat) (hk : effK c k ≤ c.n)
    (m m' e e' : List F) (hm : m.length ≤ effK c k) (hl : m'.length = m.length)
    (he : e.length = c.n - effK c k) (he' : e'.length = c.n - effK c k)
    (h : check c m e k = true) (h' : check c m' e' k = true)
    (hd : hdist (m' ++ e') (m ++ e) ≤ c.n - effK c k) : m' ++ e' = m ++ e := by
  rw [check_eq, rpad_of_length _ _ _ he, pad_fst, List.append_assoc] at h
  rw [check_eq, rpad_of_length _ _ _ he', pad_fst, hl, List.append_assoc] at h'
  refine List.append_cancel_left (min_distance hc.prim c.fcr _ _ _ ?_ ?_ h' h ?_)
  · simp only [List.length_append, hl, he, he']
  · have := hc.n_le
    simp only [List.length_append, List.length_replicate, hl, he']
    omega
  · rwa [hdist_append_left]

theorem check_unique (c : Codec F) (hc : GoodCodec c) (msg ecc : List F) (k : Nat)
    (hm : msg.length ≤ effK c k) (hk : effK c k ≤ c.n) (he : ecc.length = c.n - effK c k)
    (h : check c msg ecc k = true) : ecc = encode c msg k :=
  List.append_cancel_left (check_min_distance c hc k hk msg msg _ ecc hm rfl
    (length_encode c hc msg k) he (check_encode c hc msg k) h
    (by rw [hdist_append_left]; exact he ▸ hdist_le_length _ _))

/-- `check` accepts exactly the parity the encoders produce (a short parity counts as
right-padded with zeros) -/
theorem check_iff (c : Codec F) (hc : GoodCodec c) (msg ecc : List F) (k : Nat)
    (hm : msg.length ≤ effK c k) (hk : effK c k ≤ c.n) (he : ecc.length ≤ c.n - effK c k) :
    check c msg ecc k = true ↔ rpad ecc c.n (effK c k) = encode c msg k := by
  have hr : check c msg ecc k = check c msg (rpad ecc c.n (effK c k)) k := by
    rw [check_eq, check_eq, rpad_of_length (rpad ecc _ _) _ _ (length_rpad _ _ _ he)]
  rw [hr]
  exact ⟨check_unique c hc msg _ k hm hk (length_rpad _ _ _ he), fun h => h ▸ check_encode c hc msg k⟩

/-- two (message, parity) pairs that pass `check` and lie within capacity of the same received
word, for the same erasure list, coincide -/
theorem check_unique_within (c : Codec F) (hc : GoodCodec c) (k : Nat) (hk : effK c k ≤ c.n)
    (w m m' e e' : List F) (l : List Nat) (hm : m.length ≤ effK c k) (hl : m'.length = m.length)
    (he : e.length = c.n - effK c k) (he' : e'.length = c.n - effK c k)
    (hw : w.length = m.length + (c.n - effK c k))
    (h : check c m e k = true) (h' : check c m' e' k = true)
    (hc1 : 2 * errorsOutside w (m ++ e) l + l.length ≤ c.n - effK c k)
    (hc2 : 2 * errorsOutside w (m' ++ e') l + l.length ≤ c.n - effK c k) : m' ++ e' = m ++ e := by
  refine check_min_distance c hc k hk m m' e e' hm hl he he' h h' ?_
  have := hdist_le_add_errorsOutside w (m' ++ e') (m ++ e) l
    (by rw [List.length_append, hw, hl, he']) (by rw [List.length_append, hw, he])
  omega

theorem goodCodec_algo {c : Codec F} (hc : GoodCodec c) (a : Nat) (ha : a = 1 ∨ a = 2 ∨ a = 3) :
    GoodCodec { c with algo := a } :=
  ⟨hc.char2, by rcases ha with h | h | h <;> simp [h], hc.prim, hc.n_le⟩

theorem encode_algo_irrelevant (c : Codec F) (hc : GoodCodec c) (msg : List F) (k : Nat)
    (hm : msg.length ≤ effK c k) (hk : effK c k ≤ c.n) (a : Nat) (ha : a = 1 ∨ a = 2 ∨ a = 3) :
    encode { c with algo := a } msg k = encode c msg k :=
  check_unique c hc msg _ k hm hk (length_encode _ (goodCodec_algo hc a ha) msg k)
    (check_encode _ (goodCodec_algo hc a ha) msg k)

end Facade

end Pff.RSProofs
