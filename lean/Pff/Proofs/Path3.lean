import Pff.Proofs.Path2
/-!
The walks: `recwalk` of a tree mounted at any root is `relwalk` with each component list joined
onto the root; plainness and distinctness of the walked component lists; looking a relative path
up in the mounted tree.
-/
namespace Pff.Path

/-! ## the walks -/

mutual
theorem recwalk_relwalk (root : Bytes) : (t : PTree) → (ds : List Bytes) →
    recwalk (ds.foldl join2 root) t =
      (relwalk ds t).map (fun e => (e.1.foldl join2 root, e.2.1, e.2.2))
  | .node files dirs, ds => by
    rw [recwalk, relwalk, List.map_append, List.map_map, recwalk_walkDirs root dirs ds]
    rfl
theorem recwalk_walkDirs (root : Bytes) : (dirs : List (Bytes × PTree)) → (ds : List Bytes) →
    recwalk.walkDirs (ds.foldl join2 root) dirs =
      (relwalk.walkDirs ds dirs).map (fun e => (e.1.foldl join2 root, e.2.1, e.2.2))
  | [], ds => by simp [recwalk.walkDirs, relwalk.walkDirs]
  | (d, t) :: rest, ds => by
    rw [recwalk.walkDirs, relwalk.walkDirs, List.map_append, ← recwalk_walkDirs root rest ds,
      ← recwalk_relwalk root t (ds ++ [d])]
    simp [List.foldl_append]
end

mutual
theorem relwalk_plain : (t : PTree) → (ds : List Bytes) → PlainTree t → AllPlain ds →
    ∀ e ∈ relwalk ds t, AllPlain e.1 ∧ Plain e.2.1
  | .node files dirs, ds, ht, hds => by
    rw [PlainTree] at ht
    intro e he
    rw [relwalk, List.mem_append, List.mem_map] at he
    rcases he with ⟨fc, hfc, rfl⟩ | he
    · exact ⟨hds, ht.1 fc hfc⟩
    · exact relwalkDirs_plain dirs ds ht.2 hds e he
theorem relwalkDirs_plain : (dirs : List (Bytes × PTree)) → (ds : List Bytes) →
    PlainTree.PlainDirs dirs → AllPlain ds →
    ∀ e ∈ relwalk.walkDirs ds dirs, AllPlain e.1 ∧ Plain e.2.1
  | [], ds, _, _ => by simp [relwalk.walkDirs]
  | (d, t) :: rest, ds, hd, hds => by
    rw [PlainTree.PlainDirs] at hd
    intro e he
    rw [relwalk.walkDirs, List.mem_append] at he
    rcases he with he | he
    · exact relwalk_plain t (ds ++ [d]) hd.2.1 (hds.append (.single hd.1)) e he
    · exact relwalkDirs_plain rest ds hd.2.2 hds e he
end

/-- component list of a walked entry -/
def key (e : List Bytes × Bytes × Bytes) : List Bytes := e.1 ++ [e.2.1]

theorem key_plain {t : PTree} (ht : PlainTree t) : ∀ e ∈ relwalk [] t, AllPlain (key e) := by
  intro e he
  obtain ⟨h1, h2⟩ := relwalk_plain t [] ht (by simp [AllPlain]) e he
  exact h1.append (.single h2)

/-- the tree mounted at ANY root: the path of every file is the root joined with its recorded
relative path -/
theorem mountAbs_eq (root : Bytes) {t : PTree} (ht : PlainTree t) :
    mountAbs root t = (relFS t).map (fun e => (join2 root e.1, e.2)) := by
  rw [mountAbs, show recwalk root t = _ from recwalk_relwalk root t [], relFS, List.map_map,
    List.map_map]
  refine List.map_congr_left fun e he => ?_
  have h := foldl_join2 root (L := key e) (by simp [key]) (key_plain ht e he)
  rw [key, List.foldl_append] at h
  exact congrArg (·, e.2.2) h

theorem relFS_mem {t : PTree} (ht : PlainTree t) :
    ∀ e ∈ relFS t, ∃ L, L ≠ [] ∧ AllPlain L ∧ e.1 = joinSlash L := by
  intro e he
  obtain ⟨x, hx, rfl⟩ := List.mem_map.1 he
  exact ⟨key x, by simp [key], key_plain ht x hx, rfl⟩

mutual
theorem relwalk_nodup : (t : PTree) → (ds : List Bytes) → DistinctTree t →
    ((relwalk ds t).map key).Nodup ∧ ∀ e ∈ relwalk ds t, ∃ q, e.1 = ds ++ q
  | .node files dirs, ds, hd => by
    rw [DistinctTree] at hd
    obtain ⟨hf, hdn, hdd⟩ := hd
    obtain ⟨ih1, ih2⟩ := relwalkDirs_nodup dirs ds hdn hdd
    rw [relwalk]
    constructor
    · rw [List.map_append, List.map_map, List.nodup_append]
      refine ⟨?_, ih1, ?_⟩
      · rw [List.Nodup, List.pairwise_map] at hf ⊢
        exact hf.imp fun hab e => hab (by simpa [key] using e)
      · intro a ha b hb e
        obtain ⟨fc, _, rfl⟩ := List.mem_map.1 ha
        obtain ⟨x, hx, rfl⟩ := List.mem_map.1 hb
        obtain ⟨d, q, _, hq⟩ := ih2 x hx
        simp [key, hq] at e
    · intro e he
      rw [List.mem_append, List.mem_map] at he
      rcases he with ⟨fc, _, rfl⟩ | he
      · exact ⟨[], by simp⟩
      · obtain ⟨d, q, _, hq⟩ := ih2 e he
        exact ⟨d :: q, hq⟩
theorem relwalkDirs_nodup : (dirs : List (Bytes × PTree)) → (ds : List Bytes) →
    (dirs.map (·.1)).Nodup → DistinctTree.DistinctDirs dirs →
    ((relwalk.walkDirs ds dirs).map key).Nodup ∧
      ∀ e ∈ relwalk.walkDirs ds dirs, ∃ d q, d ∈ dirs.map (·.1) ∧ e.1 = ds ++ d :: q
  | [], ds, _, _ => by simp [relwalk.walkDirs]
  | (d, t) :: rest, ds, hn, hd => by
    rw [DistinctTree.DistinctDirs] at hd
    rw [List.map_cons, List.nodup_cons] at hn
    obtain ⟨ht1, ht2⟩ := relwalk_nodup t (ds ++ [d]) hd.1
    obtain ⟨ih1, ih2⟩ := relwalkDirs_nodup rest ds hn.2 hd.2
    rw [relwalk.walkDirs]
    constructor
    · rw [List.map_append, List.nodup_append]
      refine ⟨ht1, ih1, ?_⟩
      intro a ha b hb e
      obtain ⟨x, hx, rfl⟩ := List.mem_map.1 ha
      obtain ⟨y, hy, rfl⟩ := List.mem_map.1 hb
      obtain ⟨q, hq⟩ := ht2 x hx
      obtain ⟨d', q', hd', hq'⟩ := ih2 y hy
      simp only [key, hq, hq', List.append_assoc, List.append_cancel_left_eq, List.cons_append,
        List.nil_append, List.cons.injEq] at e
      exact hn.1 (e.1 ▸ hd')
    · intro e he
      rw [List.mem_append] at he
      rcases he with he | he
      · obtain ⟨q, hq⟩ := ht2 e he
        exact ⟨d, q, by simp, by rw [hq]; simp⟩
      · obtain ⟨d', q', hd', hq'⟩ := ih2 e he
        exact ⟨d', q', List.mem_cons_of_mem _ hd', hq'⟩
end

theorem find?_congr_mem {α : Type} {l : List α} {p q : α → Bool} (h : ∀ a ∈ l, p a = q a) :
    l.find? p = l.find? q := by
  induction l with
  | nil => rfl
  | cons x xs ih =>
    rw [List.find?_cons, List.find?_cons, h x (by simp),
      ih (fun a ha => h a (List.mem_cons_of_mem _ ha))]

theorem lookup_relocated (root : Bytes) {t : PTree} (ht : PlainTree t)
    {rel : Bytes} (hrel : rel.head? ≠ some sep) :
    ((mountAbs root t).find? (fun e => e.1 == join2 root rel)).map (·.2) =
      ((relFS t).find? (fun e => e.1 == rel)).map (·.2) := by
  rw [mountAbs_eq root ht, List.find?_map, Option.map_map]
  refine congrArg (Option.map _) (find?_congr_mem fun e he => ?_)
  obtain ⟨L, _, hL, h⟩ := relFS_mem ht e he
  have hh : e.1.head? ≠ some sep := h ▸ joinSlash_head hL
  show (join2 root e.1 == join2 root rel) = (e.1 == rel)
  rw [Bool.eq_iff_iff, beq_iff_eq, beq_iff_eq]
  exact ⟨join2_injective root hh hrel, congrArg _⟩

end Pff.Path
