import Pff.Props.Chain2
import Pff.Props.RunD
/-!
Helper lemmas for `Pff/Props/NonVacuity.lean`: what an undamaged file and its generated track
assemble to (`PristineBlock`), for both tools; bytes; undamaged metadata.
-/
namespace Pff.NonVacuityProofs

open Pff.GF Pff.Facade Pff.Ecc Pff.Layout Pff.RSSpec Pff.Entry Pff.Scan Pff.Run Pff.Bridge Pff.Chain

/-- what an undamaged file and its generated track assemble to -/
structure PristineBlock (O : Ops) (fast : Bool) (orig : List Nat) (b : AsmBlock) : Prop where
  msgEq : b.msg = (orig.drop b.off).take b.msg.length
  hashEq : b.hash = O.H b.msg
  eccEq : b.ecc = O.enc b.k b.msg
  clean : needsRepair O fast b = false

theorem pristine_whole (O : Ops) (fast : Bool) (hashLen mbs : Nat) (kOf : Nat → Nat)
    (hk : ∀ x, 1 ≤ kOf x) (hpos : ∀ x, 1 ≤ hashLen + (mbs - kOf x))
    (hO : CleanOps O hashLen mbs fast) (orig : List Nat) :
    ((assemble kOf hashLen mbs orig (genTrack O.H O.enc kOf orig) (orig.length + 1) 0 0).map (·.msg)).flatten
        = orig ∧
    ∀ b ∈ assemble kOf hashLen mbs orig (genTrack O.H O.enc kOf orig) (orig.length + 1) 0 0,
      PristineBlock O fast orig b := by
  have hclean := Pff.Ecc.B.whole_gen_clean O fast hashLen mbs kOf hk hpos hO.hashLen hO.encLen hO.accepts orig
  have hag := C10_agree_whole kOf hk hashLen mbs O.H O.enc hO.hashLen hO.encLen hpos orig
  refine ⟨?_, ?_⟩
  · rw [hag, List.map_map]
    have ht := (C10_tiles kOf hk orig.length).1
    have := Pff.Entry.A.tiles_flatten orig _ _ _ ht
    rw [Nat.sub_zero, List.drop_zero, List.take_length] at this
    exact this
  · intro b hb
    have hc := hclean b hb
    rw [hag] at hb
    obtain ⟨lb, _, rfl⟩ := List.mem_map.mp hb
    exact ⟨Pff.Entry.A.slice_self orig lb, rfl, rfl, hc⟩

theorem pristine_header (O : Ops) (fast : Bool) (k hashLen mbs headerSize : Nat)
    (hk : 1 ≤ k) (hpos : 1 ≤ hashLen + (mbs - k))
    (hO : CleanOps O hashLen mbs fast) (orig : List Nat) :
    ((assembleHeader k hashLen mbs
        (if 0 < orig.length ∧ orig.length < headerSize then orig.length else headerSize)
        orig (genTrackHeader O.H O.enc k headerSize orig) (orig.length + 1) 0 0).map (·.msg)).flatten
        = orig.take (if 0 < orig.length ∧ orig.length < headerSize then orig.length else headerSize) ∧
    ∀ b ∈ assembleHeader k hashLen mbs
        (if 0 < orig.length ∧ orig.length < headerSize then orig.length else headerSize)
        orig (genTrackHeader O.H O.enc k headerSize orig) (orig.length + 1) 0 0,
      PristineBlock O fast orig b := by
  rw [Pff.Ecc.B.assembleHeader_congr_take k hashLen mbs _ headerSize orig _
    (Pff.Ecc.B.take_readLen orig headerSize), Pff.Ecc.B.take_readLen]
  have hclean := Pff.Ecc.B.header_gen_clean O fast k hashLen mbs headerSize hk hpos hO.hashLen hO.encLen
    hO.accepts orig
  have hag := C10_agree_header k hashLen mbs headerSize hk O.H O.enc hO.hashLen (hO.encLen k) hpos orig
  refine ⟨?_, ?_⟩
  · rw [hag, List.map_map]
    have ht := (C10_header_tiles k headerSize orig.length hk).1
    have := Pff.Entry.A.tiles_flatten orig _ _ _ ht
    have ht : orig.take (min headerSize orig.length) = orig.take headerSize :=
      List.take_eq_take_iff.2 (by rw [Nat.min_assoc, Nat.min_self])
    rw [Nat.sub_zero, List.drop_zero, ht] at this
    exact this
  · intro b hb
    have hc := hclean b hb
    rw [hag] at hb
    obtain ⟨lb, _, rfl⟩ := List.mem_map.mp hb
    exact ⟨Pff.Entry.A.slice_self orig lb, rfl, rfl, hc⟩

/-- the blocks of an undamaged file with its generated track: cover and per-block facts -/
theorem pristine_blocks (O : Ops) (P : Pff.Run.Params) (hP : ParamsOK O P) (d : Damaged)
    (h1 : d.now = d.orig) (h2 : d.trackD = genTrackFor O P d.orig) :
    ∀ b ∈ blocksOf P d, PristineBlock O P.fast d.orig b := by
  unfold blocksOf
  rw [h1, h2]
  cases htool : P.tool with
  | header =>
    simp only [genTrackFor, htool]
    exact (pristine_header O P.fast P.kMain P.hashLen P.mbs P.headerSize hP.kMain hP.posMain hP.ops d.orig).2
  | whole =>
    simp only [genTrackFor, htool]
    exact (pristine_whole O P.fast P.hashLen P.mbs (P.kOfFor d.orig.length) (hP.kOf _) (hP.posOf _) hP.ops d.orig).2

/-! ### bytes -/

theorem isBytes_track (H : List Nat → List Nat) (enc : Nat → List Nat → List Nat)
    (hH : ∀ m, IsBytes (H m)) (hE : ∀ k m, IsBytes (enc k m)) (content : List Nat) (L : List Block) :
    IsBytes ((L.map (fun b => H (slice content b) ++ enc b.k (slice content b))).flatten) :=
  List.forall_mem_flatten.2 fun l hl => by
    obtain ⟨lb, _, rfl⟩ := List.mem_map.mp hl
    exact List.forall_mem_append.2 ⟨hH _, hE _ _⟩

theorem isBytes_genTrackFor (O : Ops) (P : Pff.Run.Params) (hH : ∀ m, IsBytes (O.H m))
    (hE : ∀ k m, IsBytes (O.enc k m)) (content : List Nat) : IsBytes (genTrackFor O P content) := by
  unfold genTrackFor
  cases P.tool with
  | header => exact isBytes_track O.H O.enc hH hE content _
  | whole => exact isBytes_track O.H O.enc hH hE content _

theorem withinCapacityBytes (O : Ops) (P : Pff.Run.Params) (hP : ParamsOK O P)
    (hH : ∀ m, IsBytes (O.H m)) (hE : ∀ k m, IsBytes (O.enc k m))
    (d : Damaged) (hb : IsBytes d.orig)
    (h1 : d.now = d.orig) (h2 : d.trackD = genTrackFor O P d.orig) : WithinCapacityBytes O P d := by
  refine ⟨by rw [h1], by rw [h2], hb, by rw [h1]; exact hb, by rw [h2]; exact isBytes_genTrackFor O P hH hE _, ?_⟩
  intro b hbm
  have h := pristine_blocks O P hP d h1 h2 b hbm
  have hm : origMsg d.orig b = b.msg := h.msgEq.symm
  rw [hm, ← h.eccEq, Pff.RSProofs.hdist_self]
  exact ⟨Nat.zero_le _, fun _ _ => rfl⟩

/-! ### metadata -/

theorem field_ok (O : Ops) (k mbs : Nat) (hI : IntraOps O k mbs) (field : List Nat) :
    (((assembleHeader k 0 mbs field.length field (intraEcc O.enc k field) (field.length + 1) 0 0).map (·.msg)).flatten = field ∧
      ∀ b ∈ assembleHeader k 0 mbs field.length field (intraEcc O.enc k field) (field.length + 1) 0 0,
        IntraBlockOK O k field b) ∧
    (((assemble (fun _ => k) 0 mbs field (intraEcc O.enc k field) (field.length + 1) 0 0).map (·.msg)).flatten = field ∧
      ∀ b ∈ assemble (fun _ => k) 0 mbs field (intraEcc O.enc k field) (field.length + 1) 0 0,
        IntraBlockOK O k field b) := by
  rw [Pff.Entry.A.assembleHeader_clean O.enc k mbs hI.kpos hI.parity hI.encLen field,
    Pff.Entry.A.assemble_clean O.enc k mbs hI.kpos hI.parity hI.encLen field]
  have h1 := Pff.Entry.A.cleanBlocks_msgs O.enc k hI.kpos field
  have h2 : ∀ b ∈ Pff.Entry.A.cleanBlocks O.enc k field, IntraBlockOK O k field b :=
    fun b hb => Or.inl (Pff.Entry.A.cleanBlocks_ok O k hI.kpos hI.accepts field b hb)
  exact ⟨⟨h1, h2⟩, ⟨h1, h2⟩⟩

/-- any entry whose intra parities are the generated ones.  `pe`, `se` are variables: unifying a
projection of `partsOf …` with `intraEcc …` makes `isDefEq` evaluate the layout, at every field. -/
theorem metaWithinCapacity_parts (O : Ops) (P : Pff.Run.Params) (hI : IntraOps O P.kIntra P.mbs)
    (path sizeTxt pe se track : List Nat) (hpe : pe = intraEcc O.enc P.kIntra path)
    (hse : se = intraEcc O.enc P.kIntra sizeTxt) (hne : path ≠ [])
    (hc : Clean path ∧ Clean sizeTxt ∧ Clean pe ∧ Clean se)
    (hs : path.length + sizeTxt.length + pe.length + se.length + 4 * delim.length ≤ 65535) :
    MetaPristine O P ⟨path, sizeTxt, pe, se, track⟩ ∧
    MetaWithinCapacity O P ⟨path, sizeTxt, pe, se, track⟩ ⟨path, sizeTxt, pe, se, track⟩ := by
  have hp := field_ok O P.kIntra P.mbs hI path
  have hz := field_ok O P.kIntra P.mbs hI sizeTxt
  have r1 := C09_intra_roundtrip O P.kIntra P.mbs hI path
  have r2 := C09_intra_roundtrip O P.kIntra P.mbs hI sizeTxt
  rw [← hpe] at hp r1
  rw [← hse] at hz r2
  refine ⟨?_, ⟨rfl, rfl, rfl, rfl, rfl, hne, hc, hc, hs, ?_, ?_⟩⟩
  · unfold MetaPristine
    cases P.tool with
    | header => exact ⟨by rw [r1.1], by rw [r2.1]⟩
    | whole => exact ⟨by rw [r1.2], by rw [r2.2]⟩
  · cases P.tool with
    | header => exact hp.1
    | whole => exact hp.2
  · cases P.tool with
    | header => exact hz.1
    | whole => exact hz.2

end Pff.NonVacuityProofs
