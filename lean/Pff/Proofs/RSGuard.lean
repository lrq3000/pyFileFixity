import Pff.Proofs.RSDecode
/-! The sanity check of `ECCMan.decode` (no contract on the third-party decoder): a successful
`decode` made corrections within the capacity of the code. -/
namespace Pff.RSProofs

open Pff.RS Pff.Facade Pff.GF Pff.RSSpec

set_option linter.unusedSectionVars false

variable {F : Type} [Field F] [DecidableEq F]

theorem decode_within_radius (c : Codec F) (core : Core F) (msg ecc : List F) (k : Nat)
    (en : Bool) (ec : F) (oe : Bool) (call : CoreCall F) (m' e' : List F)
    (hprep : prepareDecode c msg ecc k en ec oe = some call)
    (hdec : decode core c msg ecc k en ec oe = .ok (m', e')) :
    ∃ mr er, m' = mr.drop call.padLen ∧ e' = er ∧
      2 * correctedErrors call.word (mr ++ er) (call.erasePos.getD []) +
        (call.erasePos.getD []).length ≤ call.nsym := by
  unfold decode at hdec
  rw [hprep] at hdec
  simp only at hdec
  split at hdec
  · cases hdec
  · next mr er hcore =>
    generalize (if c.algo = 1 ∨ c.algo = 2 then List.replicate (call.nsym - er.length) 0 ++ er
      else er) = er' at hdec
    split at hdec
    · cases hdec
    · next hg =>
      simp only [Except.ok.injEq, Prod.mk.injEq] at hdec
      exact ⟨mr, er', hdec.1.symm, hdec.2.symm, Nat.le_of_not_gt hg⟩

/-- what a successful `decode` of a full-length parity says, with the library call written out:
the early return, or a repaired word `mr ++ e'` that passed the guard -/
theorem decode_ok_cases (c : Codec F) (core : Core F) (msg ecc : List F) (k : Nat)
    (en : Bool) (ec : F) (oe : Bool) (m' e' : List F) (he : ecc.length = c.n - effK c k)
    (hdec : decode core c msg ecc k en ec oe = .ok (m', e')) (l : List Nat)
    (hl : l = if en || oe then (List.range (msg ++ ecc).length).filter
      (fun i => (msg ++ ecc)[i]? = some ec) else []) :
    (m' = msg ∧ e' = ecc) ∨ ∃ mr, m' = mr.drop (effK c k - msg.length) ∧
      2 * correctedErrors (List.replicate (effK c k - msg.length) 0 ++ (msg ++ ecc)) (mr ++ e')
          (l.map (· + (effK c k - msg.length))) + l.length ≤ c.n - effK c k := by
  cases hprep : prepareDecode c msg ecc k en ec oe with
  | none =>
    unfold decode at hdec
    rw [hprep] at hdec
    cases hdec
    exact Or.inl ⟨rfl, rfl⟩
  | some call =>
    obtain ⟨mr, er, h1, h2, h3⟩ := decode_within_radius c core msg ecc k en ec oe call m' e' hprep hdec
    rw [prepareDecode_eq] at hprep
    have hcall := Option.some.inj ((ite_eq_iff.mp hprep).resolve_left (by simp)).2
    subst hcall h2 hl
    simp only [pad_snd, pad_fst, rpad_of_length _ _ _ he, List.append_assoc] at h1 h3
    refine Or.inr ⟨mr, h1, ?_⟩
    cases hb : (en || oe) <;> simpa [hb] using h3

end Pff.RSProofs
