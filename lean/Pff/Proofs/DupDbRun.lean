import Pff.Model.DupDb
import Pff.Proofs.Merge
/-!
Helper lemmas on the whole run `dupWithDb` (C18): the rows are the image of the aligned groups
(`Pff.Merge.dupGroups`), so that the alignment specification (`dupGroups_spec`) transfers.
-/
namespace Pff.DupDb

open Pff.Merge

/-- the row made from one aligned group -/
def mkRow (bs : Nat) (Hf : Bytes → Nat × Nat) (db : List (String × Nat × Nat))
    (pg : Path × List (Nat × Bytes)) : Row :=
  { path := pg.1, out := (processGroupDb bs Hf (dbLookup db pg.1) pg.2).out,
    used := pg.2.map (·.1), mark := (processGroupDb bs Hf (dbLookup db pg.1) pg.2).mark,
    errcode := (processGroupDb bs Hf (dbLookup db pg.1) pg.2).errcode }

theorem dupWithDb_rows (bs : Nat) (Hf : Bytes → Nat × Nat) (db : List (String × Nat × Nat))
    (replicas : List Tree) :
    (dupWithDb bs Hf db replicas).rows = (dupGroups replicas).map (mkRow bs Hf db) := rfl

theorem dupWithDb_exit (bs : Nat) (Hf : Bytes → Nat × Nat) (db : List (String × Nat × Nat))
    (replicas : List Tree) :
    (dupWithDb bs Hf db replicas).exit =
      if (dupWithDb bs Hf db replicas).rows.any (fun r => r.errcode ≠ 0) then 1 else 0 := rfl

/-- every row comes from an aligned group -/
theorem mem_rows {bs : Nat} {Hf : Bytes → Nat × Nat} {db : List (String × Nat × Nat)}
    {replicas : List Tree} {row : Row} (h : row ∈ (dupWithDb bs Hf db replicas).rows) :
    ∃ pg ∈ dupGroups replicas, row = mkRow bs Hf db pg := by
  rw [dupWithDb_rows, List.mem_map] at h
  obtain ⟨pg, hpg, e⟩ := h
  exact ⟨pg, hpg, e.symm⟩

/-- exit status 0: no row carries an error code -/
theorem exit_zero_errcode {bs : Nat} {Hf : Bytes → Nat × Nat} {db : List (String × Nat × Nat)}
    {replicas : List Tree} (h : (dupWithDb bs Hf db replicas).exit = 0) :
    ∀ row ∈ (dupWithDb bs Hf db replicas).rows, row.errcode = 0 := by
  intro row hrow
  rw [dupWithDb_exit] at h
  by_cases ha : (dupWithDb bs Hf db replicas).rows.any (fun r => r.errcode ≠ 0) = true
  · rw [if_pos ha] at h
    cases h
  · rw [Bool.not_eq_true, List.any_eq_false] at ha
    have := ha row hrow
    simpa using this

theorem rows_path (bs : Nat) (Hf : Bytes → Nat × Nat) (db : List (String × Nat × Nat))
    (replicas : List Tree) :
    (dupWithDb bs Hf db replicas).rows.map (·.path) = (dupGroups replicas).map (·.1) := by
  rw [dupWithDb_rows, List.map_map]
  rfl

end Pff.DupDb
