import Pff.Proofs.RSGuard
/-! Soundness of `ECCMan.decode` for an ARBITRARY third-party decoder (no contract W): a result of
the right lengths that passes `check`, from a received word within capacity of the original, IS
the original (facade level, generic field). -/
namespace Pff.RSProofs

open Pff.RS Pff.Facade Pff.GF Pff.RSSpec

set_option linter.unusedSectionVars false

variable {F : Type} [Field F] [DecidableEq F]

/-- `decode_sound` with the capacity hypothesis in its one form (erasure handling off is an empty
erasure list): the result passes `check`, it lies within capacity of the received word by the guard
inside `decode`, the original does by hypothesis -/
theorem decode_sound_of_bound (c : Codec F) (hc : GoodCodec c) (core : Core F)
    (msg : List F) (k : Nat) (hm : msg.length ≤ effK c k) (hk : effK c k ≤ c.n)
    (msg' ecc' : List F) (hl : msg'.length = msg.length) (he : ecc'.length = c.n - effK c k)
    (en : Bool) (ec : F) (oe : Bool) (l : List Nat)
    (hl' : l = if en || oe then (List.range (msg' ++ ecc').length).filter
      (fun i => (msg' ++ ecc')[i]? = some ec) else [])
    (hcap : 2 * errorsOutside (msg' ++ ecc') (msg ++ encode c msg k) l + l.length ≤ c.n - effK c k)
    (m'' e'' : List F) (hdec : decode core c msg' ecc' k en ec oe = .ok (m'', e''))
    (hml : m''.length = msg.length) (hel : e''.length = c.n - effK c k)
    (hchk : check c m'' e'' k = true) :
    m'' = msg ∧ e'' = encode c msg k := by
  refine List.append_inj (check_unique_within c hc k hk (msg' ++ ecc') msg m'' _ e'' l hm hml
    (length_encode c hc msg k) hel (by rw [List.length_append, hl, he]) (check_encode c hc msg k)
    hchk hcap ?_) hml
  rcases decode_ok_cases c core msg' ecc' k en ec oe m'' e'' he hdec l hl' with ⟨rfl, rfl⟩ | ⟨mr, h1, h3⟩
  · rw [errorsOutside_self]
    omega
  rw [hl] at h1 h3
  by_cases hz : msg.length = 0
  · -- empty message: the guard says nothing (`mr` may be shorter than the pad), the check does
    rw [List.eq_nil_of_length_eq_zero hz] at hcap
    rw [List.eq_nil_of_length_eq_zero (hml.trans hz)] at hchk ⊢
    rw [check_unique c hc [] e'' k (Nat.zero_le _) hk hel hchk]
    exact hcap
  · have htl : (mr.take (effK c k - msg.length)).length = effK c k - msg.length := by
      have := congrArg List.length h1
      rw [List.length_drop, hml] at this
      rw [List.length_take]
      omega
    have hX : mr ++ e'' = mr.take (effK c k - msg.length) ++ (m'' ++ e'') := by
      rw [← List.append_assoc, h1, List.take_append_drop]
    have := errorsOutside_append (List.replicate (effK c k - msg.length) (0 : F))
      (mr.take (effK c k - msg.length)) (msg' ++ ecc') (m'' ++ e'') l
      (by rw [List.length_replicate, htl])
    rw [List.length_replicate] at this
    rw [hX, correctedErrors_eq_errorsOutside _ _ _
      (by simp only [List.length_append, List.length_replicate, htl, hl, he, hml, hel]),
      this] at h3
    omega

end Pff.RSProofs
