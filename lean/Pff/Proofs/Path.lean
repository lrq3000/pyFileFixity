import Pff.Model.Path
/-!
The POSIX path model (`Pff/Model/Path.lean`) on strings: `splitSlash` / `joinSlash` are inverse to
each other on plain components; `join2` / `join` with a relative right argument, for ANY left one.
-/
namespace Pff.Path

/-! ## `splitSlash` -/

theorem splitSlash_cons_ne {c : Nat} {rest h : Bytes} {t : List Bytes} (hc : c ≠ sep)
    (e : splitSlash rest = h :: t) : splitSlash (c :: rest) = (c :: h) :: t := by
  simp [splitSlash, hc, e]

theorem splitSlash_ne_nil (p : Bytes) : splitSlash p ≠ [] := by
  cases p with
  | nil => simp [splitSlash]
  | cons c rest =>
    unfold splitSlash
    split
    · simp
    · split <;> simp

theorem splitSlash_append (a b : Bytes) (h : sep ∉ a) :
    splitSlash (a ++ sep :: b) = a :: splitSlash b := by
  induction a with
  | nil => simp [splitSlash]
  | cons c rest ih =>
    rw [List.mem_cons, not_or] at h
    exact splitSlash_cons_ne (Ne.symm h.1) (ih h.2)

theorem splitSlash_nosep (a : Bytes) (h : sep ∉ a) : splitSlash a = [a] := by
  induction a with
  | nil => rfl
  | cons c rest ih =>
    rw [List.mem_cons, not_or] at h
    exact splitSlash_cons_ne (Ne.symm h.1) (ih h.2)

theorem splitSlash_mem_nosep (p : Bytes) : ∀ x ∈ splitSlash p, sep ∉ x := by
  induction p with
  | nil => simp [splitSlash]
  | cons c rest ih =>
    obtain ⟨h, t, e⟩ := List.exists_cons_of_ne_nil (splitSlash_ne_nil rest)
    rw [e] at ih
    by_cases hc : c = sep
    · rw [hc, splitSlash, if_pos rfl, e]
      intro x hx
      rcases List.mem_cons.1 hx with rfl | hx
      · simp
      · exact ih x hx
    · rw [splitSlash_cons_ne hc e]
      intro x hx
      rcases List.mem_cons.1 hx with rfl | hx
      · exact fun hm => (List.mem_cons.1 hm).elim (fun e' => hc e'.symm) (ih h List.mem_cons_self)
      · exact ih x (List.mem_cons_of_mem _ hx)

/-! ## `joinSlash` -/

theorem joinSlash_cons (c : Bytes) {rest : List Bytes} (h : rest ≠ []) :
    joinSlash (c :: rest) = c ++ sep :: joinSlash rest := by
  cases rest with
  | nil => exact absurd rfl h
  | cons d r => rfl

theorem joinSlash_append {a b : List Bytes} (ha : a ≠ []) (hb : b ≠ []) :
    joinSlash (a ++ b) = joinSlash a ++ sep :: joinSlash b := by
  induction a with
  | nil => exact absurd rfl ha
  | cons c rest ih =>
    cases rest with
    | nil => exact joinSlash_cons c hb
    | cons d r =>
      rw [List.cons_append, joinSlash_cons c (by simp), ih (by simp), joinSlash_cons c (by simp),
        List.append_assoc, List.cons_append]

theorem splitSlash_joinSlash {comps : List Bytes} (hne : comps ≠ [])
    (h : ∀ c ∈ comps, sep ∉ c) : splitSlash (joinSlash comps) = comps := by
  induction comps with
  | nil => exact absurd rfl hne
  | cons c rest ih =>
    cases rest with
    | nil => exact splitSlash_nosep c (h c (by simp))
    | cons d r =>
      rw [joinSlash_cons c (by simp), splitSlash_append _ _ (h c (by simp)),
        ih (by simp) (fun x hx => h x (List.mem_cons_of_mem _ hx))]

/-! ## plain components -/

abbrev AllPlain (l : List Bytes) : Prop := ∀ c ∈ l, Plain c

theorem AllPlain.append {a b : List Bytes} (ha : AllPlain a) (hb : AllPlain b) : AllPlain (a ++ b) :=
  List.forall_mem_append.2 ⟨ha, hb⟩

theorem AllPlain.single {f : Bytes} (hf : Plain f) : AllPlain [f] := by
  simpa [AllPlain] using hf

theorem AllPlain.tail {c : Bytes} {l : List Bytes} (h : AllPlain (c :: l)) : AllPlain l :=
  fun x hx => h x (List.mem_cons_of_mem _ hx)

theorem AllPlain.nosep {l : List Bytes} (h : AllPlain l) : ∀ c ∈ l, sep ∉ c :=
  fun c hc => (h c hc).2.1

theorem Plain.head {c : Bytes} (h : Plain c) : c.head? ≠ some sep :=
  fun e => h.2.1 (List.mem_of_mem_head? e)

theorem Plain.getLast {c : Bytes} (h : Plain c) : c.getLast? ≠ some sep :=
  fun e => h.2.1 (List.mem_of_getLast? e)

theorem getLast?_append_ne_nil (a : Bytes) {b : Bytes} (hb : b ≠ []) :
    (a ++ b).getLast? = b.getLast? := by
  rw [List.getLast?_append, Option.or_of_isSome (by simpa using hb)]

theorem head?_append_ne_nil {a : Bytes} (b : Bytes) (ha : a ≠ []) : (a ++ b).head? = a.head? := by
  rw [List.head?_append, Option.or_of_isSome (by simpa using ha)]

theorem joinSlash_ne_nil {L : List Bytes} (hne : L ≠ []) (h : AllPlain L) : joinSlash L ≠ [] := by
  cases L with
  | nil => exact absurd rfl hne
  | cons c rest =>
    cases rest with
    | nil => exact (h c (by simp)).1
    | cons d r => simp [joinSlash]

theorem joinSlash_head {L : List Bytes} (h : AllPlain L) : (joinSlash L).head? ≠ some sep := by
  cases L with
  | nil => simp [joinSlash]
  | cons c rest =>
    have hc := h c (by simp)
    cases rest with
    | nil => exact hc.head
    | cons d r => rw [joinSlash_cons c (by simp), head?_append_ne_nil _ hc.1]; exact hc.head

theorem joinSlash_getLast {L : List Bytes} (hne : L ≠ []) (h : AllPlain L) :
    (joinSlash L).getLast? ≠ some sep := by
  induction L with
  | nil => exact absurd rfl hne
  | cons c rest ih =>
    cases rest with
    | nil => exact (h c (by simp)).getLast
    | cons d r =>
      rw [joinSlash_cons c (by simp), List.append_cons,
        getLast?_append_ne_nil _ (joinSlash_ne_nil (by simp) h.tail)]
      exact ih (by simp) h.tail

/-- the non-empty components, as `relpath` and `normpath` see a path -/
theorem parts_joinSlash {L : List Bytes} (hL : AllPlain L) :
    (splitSlash (joinSlash L)).filter (fun x => !x.isEmpty) = L := by
  by_cases e : L = []
  · subst e; rfl
  · rw [splitSlash_joinSlash e hL.nosep, List.filter_eq_self]
    intro c hc
    simpa using (hL c hc).1

theorem joinSlash_inj {a b : List Bytes} (ha : AllPlain a) (hb : AllPlain b)
    (h : joinSlash a = joinSlash b) : a = b := by
  rw [← parts_joinSlash ha, ← parts_joinSlash hb, h]

/-! ## `join2` / `join` with relative right arguments -/

theorem join2_nosep {a b : Bytes} (ha : a ≠ []) (hl : a.getLast? ≠ some sep)
    (hb : b.head? ≠ some sep) : join2 a b = a ++ sep :: b := by
  simp [join2, hb, ha, hl]

theorem join2_endsep {a b : Bytes} (hl : a.getLast? = some sep) (hb : b.head? ≠ some sep) :
    join2 a b = a ++ b := by
  simp [join2, hb, hl]

/-- joining a relative path onto `a` puts a separator that depends on `a` only (nothing or one
slash) between the two -/
theorem join2_rel (a : Bytes) : ∃ s, ∀ b, b.head? ≠ some sep → join2 a b = a ++ (s ++ b) := by
  by_cases h : a.isEmpty || a.getLast? = some sep
  · exact ⟨[], fun b hb => by simp [join2, hb, h]⟩
  · exact ⟨[sep], fun b hb => by simp [join2, hb, h]⟩

/-- `join(join(a, b), c) = join(a, b + '/' + c)` -/
theorem join2_assoc (a : Bytes) {b c : Bytes} (hb : Plain b) (hc : c.head? ≠ some sep) :
    join2 (join2 a b) c = join2 a (b ++ sep :: c) := by
  obtain ⟨s, hs⟩ := join2_rel a
  rw [hs b hb.head, hs _ (by rw [head?_append_ne_nil _ hb.1]; exact hb.head), ← List.append_assoc,
    join2_nosep (by simp [hb.1]) (by rw [getLast?_append_ne_nil _ hb.1]; exact hb.getLast) hc]
  simp

/-- joining plain components one after the other onto ANY path is joining their '/'-join at once -/
theorem foldl_join2 (a : Bytes) {L : List Bytes} (hne : L ≠ []) (hL : AllPlain L) :
    L.foldl join2 a = join2 a (joinSlash L) := by
  induction L generalizing a with
  | nil => exact absurd rfl hne
  | cons d rest ih =>
    cases rest with
    | nil => rfl
    | cons e r =>
      rw [List.foldl_cons, ih _ (by simp) hL.tail, join2_assoc a (hL d (by simp)) (joinSlash_head hL.tail)]
      rfl

theorem join_plain (a : Bytes) (more : List Bytes) (h : AllPlain (a :: more)) :
    join a more = joinSlash (a :: more) := by
  have ha := h a (by simp)
  by_cases e : more = []
  · subst e; rfl
  · rw [join, foldl_join2 a e h.tail, join2_nosep ha.1 ha.getLast (joinSlash_head h.tail),
      joinSlash_cons a e]

theorem join2_injective (root : Bytes) {a b : Bytes} (ha : a.head? ≠ some sep)
    (hb : b.head? ≠ some sep) (h : join2 root a = join2 root b) : a = b := by
  obtain ⟨s, hs⟩ := join2_rel root
  rw [hs a ha, hs b hb] at h
  exact List.append_cancel_left (List.append_cancel_left h)

end Pff.Path
