import Pff.Proofs.GFTables
import Mathlib.Algebra.Field.Defs
import Mathlib.Algebra.Group.Basic
/-!
Field laws of the two table-driven GF(2^8) of `Pff/Model/GF.lean`, derived generically in the
parameter set from the kernel-checked table facts of `Pff/Proofs/GFTables.lean`: associativity,
distributivity, inverses; the `Field` instance with the model's own operations; the generator.
-/
namespace Pff.GFProofs

open Pff.GF

theorem tie_spec {p : Params} (h : chkTie p = true) :
    ∀ i, i < 254 → gexp p (i + 1) = clmulmod p.prim 8 (gexp p i) p.gen := by
  intro i hi
  have := allLt_spec h i hi
  simpa using this

/-! ### Nat-level laws of the table multiplication -/
section NatLevel
variable {p : Params} (H : TableFacts p)
include H

theorem E1 {i : Nat} (hi : i < 255) : glog p (gexp p i) = i ∧ gexp p i ≠ 0 ∧ gexp p i < 256 := by
  have := allLt_spec H.e1 i hi
  simp only [Bool.and_eq_true, beq_iff_eq, bne_iff_ne, decide_eq_true_eq] at this
  exact ⟨this.1.1, this.1.2, this.2⟩

theorem E2 {a : Nat} (ha : a < 256) (h0 : a ≠ 0) : gexp p (glog p a) = a ∧ glog p a < 255 := by
  have := allLt_spec H.e2 a ha
  simp only [Bool.or_eq_true, beq_iff_eq, Bool.and_eq_true, decide_eq_true_eq] at this
  rcases this with h | h
  · exact absurd h h0
  · exact h

theorem Lg {b c : Nat} (hb : b < 256) (hc : c < 256) :
    tmul p (gexp p 1) (b ^^^ c) = tmul p (gexp p 1) b ^^^ tmul p (gexp p 1) c := by
  have := allLt_spec (allLt_spec H.lg b hb) c hc
  simpa using this

theorem tmul_lt (a b : Nat) : tmul p a b < 256 := by
  unfold tmul
  split
  · omega
  · split
    · omega
    · exact (E1 H (Nat.mod_lt _ (by omega))).2.2

omit H in
theorem tmul_comm (a b : Nat) : tmul p a b = tmul p b a := by
  unfold tmul
  by_cases ha : a = 0 <;> by_cases hb : b = 0 <;> simp [ha, hb, Nat.add_comm]

omit H in
theorem tmul_of_ne {a b : Nat} (ha : a ≠ 0) (hb : b ≠ 0) :
    tmul p a b = gexp p ((glog p a + glog p b) % 255) := by
  simp [tmul, ha, hb]

omit H in
@[simp] theorem tmul_zero_left (b : Nat) : tmul p 0 b = 0 := by simp [tmul]
omit H in
@[simp] theorem tmul_zero_right (a : Nat) : tmul p a 0 = 0 := by simp [tmul]

/-- the table product of two powers of the generator -/
theorem tmul_gexp {i j : Nat} (hi : i < 255) (hj : j < 255) :
    tmul p (gexp p i) (gexp p j) = gexp p ((i + j) % 255) := by
  rw [tmul_of_ne (E1 H hi).2.1 (E1 H hj).2.1, (E1 H hi).1, (E1 H hj).1]

theorem tmul_ne_zero {a b : Nat} (ha : a ≠ 0) (hb : b ≠ 0) : tmul p a b ≠ 0 := by
  rw [tmul_of_ne ha hb]
  exact (E1 H (Nat.mod_lt _ (by omega))).2.1

theorem glog_tmul {a b : Nat} (ha : a ≠ 0) (hb : b ≠ 0) :
    glog p (tmul p a b) = (glog p a + glog p b) % 255 := by
  rw [tmul_of_ne ha hb]
  exact (E1 H (Nat.mod_lt _ (by omega))).1

theorem tmul_assoc (a b c : Nat) : tmul p (tmul p a b) c = tmul p a (tmul p b c) := by
  by_cases ha : a = 0
  · simp [ha]
  by_cases hb : b = 0
  · simp [hb]
  by_cases hc : c = 0
  · simp [hc]
  have hab := tmul_ne_zero H ha hb
  have hbc := tmul_ne_zero H hb hc
  rw [tmul_of_ne hab hc, tmul_of_ne ha hbc, glog_tmul H ha hb, glog_tmul H hb hc]
  congr 1
  omega

theorem g_lt : gexp p 1 < 256 := (E1 H (by omega)).2.2

theorem one_tmul {a : Nat} (ha : a < 256) : tmul p 1 a = a := by
  by_cases h0 : a = 0
  · simp [h0]
  · obtain ⟨h1, h2⟩ := E2 H ha h0
    rw [← H.gexp_zero, ← h1, tmul_gexp H (by omega) h2, Nat.zero_add, Nat.mod_eq_of_lt h2]

theorem gexp_succ {i : Nat} (hi : i + 1 < 255) :
    gexp p (i + 1) = tmul p (gexp p 1) (gexp p i) := by
  rw [tmul_gexp H (by omega) (by omega), Nat.add_comm 1, Nat.mod_eq_of_lt hi]

omit H in
theorem xor_lt {b c : Nat} (hb : b < 256) (hc : c < 256) : b ^^^ c < 256 :=
  Nat.xor_lt_two_pow (n := 8) hb hc

/-- multiplication by `gexp i` is additive, by induction on `i` -/
theorem tmul_gexp_add (i : Nat) (hi : i < 255) : ∀ b c, b < 256 → c < 256 →
    tmul p (gexp p i) (b ^^^ c) = tmul p (gexp p i) b ^^^ tmul p (gexp p i) c := by
  induction i with
  | zero =>
    intro b c hb hc
    rw [H.gexp_zero, one_tmul H hb, one_tmul H hc, one_tmul H (xor_lt hb hc)]
  | succ i ih =>
    intro b c hb hc
    have hi' : i < 255 := by omega
    rw [gexp_succ H hi, tmul_assoc H, tmul_assoc H, tmul_assoc H, ih hi' b c hb hc]
    exact Lg H (tmul_lt H _ _) (tmul_lt H _ _)

theorem tmul_add {a b c : Nat} (ha : a < 256) (hb : b < 256) (hc : c < 256) :
    tmul p a (b ^^^ c) = tmul p a b ^^^ tmul p a c := by
  by_cases h0 : a = 0
  · simp [h0]
  · have := E2 H ha h0
    rw [← this.1]
    exact tmul_gexp_add H _ this.2 b c hb hc

theorem tmul_tinv {a : Nat} (ha : a < 256) (h0 : a ≠ 0) : tmul p a (tinv p a) = 1 := by
  obtain ⟨h1, h2⟩ := E2 H ha h0
  rw [tinv, if_neg h0]
  conv => lhs; arg 2; rw [← h1]
  rw [tmul_gexp H h2 (Nat.mod_lt _ (by omega)), ← H.gexp_zero]
  congr 1
  omega

end NatLevel

/-! ### the byte type -/
section EltLevel
variable {p : Params}

theorem toNat_lt (a : Elt p) : a.toNat < 256 := a.val.isLt

theorem elt_ext {a b : Elt p} (h : a.toNat = b.toNat) : a = b := by
  cases a with | mk av => cases b with | mk bv =>
  have : av = bv := Fin.ext h
  rw [this]

theorem toNat_ofNat {n : Nat} (h : n < 256) : (Elt.ofNat p n).toNat = n := Nat.mod_eq_of_lt h

theorem ofNat_toNat (a : Elt p) : Elt.ofNat p a.toNat = a := elt_ext (toNat_ofNat (toNat_lt a))

theorem toNat_injective : Function.Injective (Elt.toNat (p := p)) := fun _ _ => elt_ext

@[simp] theorem toNat_zero : (0 : Elt p).toNat = 0 := rfl
@[simp] theorem toNat_one : (1 : Elt p).toNat = 1 := rfl

theorem toNat_add (a b : Elt p) : (a + b).toNat = a.toNat ^^^ b.toNat :=
  toNat_ofNat (xor_lt (toNat_lt a) (toNat_lt b))

theorem toNat_neg (a : Elt p) : (-a).toNat = a.toNat := rfl

theorem toNat_mul (H : TableFacts p) (a b : Elt p) : (a * b).toNat = tmul p a.toNat b.toNat :=
  toNat_ofNat (tmul_lt H _ _)

theorem tinv_lt (H : TableFacts p) (a : Nat) : tinv p a < 256 := by
  unfold tinv
  split
  · omega
  · exact (E1 H (Nat.mod_lt _ (by omega))).2.2

theorem toNat_inv (H : TableFacts p) (a : Elt p) : (a⁻¹).toNat = tinv p a.toNat :=
  toNat_ofNat (tinv_lt H _)

theorem elt_ne_zero {a : Elt p} (h : a ≠ 0) : a.toNat ≠ 0 := fun h0 => h (elt_ext h0)

/-- `Elt p` with the model's own operations is a field. -/
@[reducible] def fieldOf (p : Params) (H : TableFacts p) : Field (Elt p) where
  add := (· + ·)
  zero := 0
  neg := fun a => -a
  sub := (· - ·)
  mul := (· * ·)
  one := 1
  inv := fun a => a⁻¹
  div := (· / ·)
  add_assoc a b c := elt_ext (by simp only [toNat_add, Nat.xor_assoc])
  zero_add a := elt_ext (by simp only [toNat_add, toNat_zero, Nat.zero_xor])
  add_zero a := elt_ext (by simp only [toNat_add, toNat_zero, Nat.xor_zero])
  add_comm a b := elt_ext (by simp only [toNat_add, Nat.xor_comm])
  neg_add_cancel a := elt_ext (by simp only [toNat_add, toNat_neg, toNat_zero, Nat.xor_self])
  sub_eq_add_neg a b := rfl
  nsmul := nsmulRec
  zsmul := zsmulRec
  mul_assoc a b c := elt_ext (by simp only [toNat_mul H, tmul_assoc H])
  one_mul a := elt_ext (by simp only [toNat_mul H, toNat_one, one_tmul H (toNat_lt a)])
  mul_one a := elt_ext (by
    simp only [toNat_mul H, toNat_one]; rw [tmul_comm, one_tmul H (toNat_lt a)])
  mul_comm a b := elt_ext (by simp only [toNat_mul H, tmul_comm])
  zero_mul a := elt_ext (by simp only [toNat_mul H, toNat_zero, tmul_zero_left])
  mul_zero a := elt_ext (by simp only [toNat_mul H, toNat_zero, tmul_zero_right])
  left_distrib a b c := elt_ext (by
    simp only [toNat_mul H, toNat_add]
    exact tmul_add H (toNat_lt a) (toNat_lt b) (toNat_lt c))
  right_distrib a b c := elt_ext (by
    simp only [toNat_mul H, toNat_add]
    rw [tmul_comm, tmul_add H (toNat_lt c) (toNat_lt a) (toNat_lt b), tmul_comm _ c.toNat,
      tmul_comm _ c.toNat])
  exists_pair_ne := ⟨0, 1, fun h => by
    have := congrArg Elt.toNat h
    simp at this⟩
  mul_inv_cancel a ha := elt_ext (by
    simp only [toNat_mul H, toNat_inv H, toNat_one]
    exact tmul_tinv H (toNat_lt a) (elt_ne_zero ha))
  inv_zero := elt_ext (by simp [toNat_inv H, tinv])
  div_eq_mul_inv a b := rfl
  npow := npowRec
  zpow := zpowRec
  nnqsmul := _
  nnqsmul_def := fun _ _ => rfl
  qsmul := _
  qsmul_def := fun _ _ => rfl

/-! ### the generator -/

theorem toNat_gpow (H : TableFacts p) (n : Nat) : (Elt.gpow p n).toNat = gexp p (n % 255) :=
  toNat_ofNat (E1 H (Nat.mod_lt _ (by omega))).2.2

theorem gpow_zero (H : TableFacts p) : Elt.gpow p 0 = 1 :=
  elt_ext (by rw [toNat_gpow H, H.gexp_zero]; rfl)

theorem gpow_succ (H : TableFacts p) (n : Nat) : Elt.gpow p (n + 1) = Elt.gpow p n * Elt.gpow p 1 :=
  elt_ext (by
    rw [toNat_mul H, toNat_gpow H, toNat_gpow H, toNat_gpow H,
      tmul_gexp H (Nat.mod_lt _ (by omega)) (by omega)]
    congr 1
    omega)

theorem gpow_one_ne_zero (H : TableFacts p) : Elt.gpow p 1 ≠ 0 := fun h =>
  (E1 H (show 1 % 255 < 255 by omega)).2.1 (by rw [← toNat_gpow H, h]; rfl)

theorem gpow_inj (H : TableFacts p) {i j : Nat} (hi : i < 255) (hj : j < 255)
    (h : Elt.gpow p i = Elt.gpow p j) : i = j := by
  have := congrArg Elt.toNat h
  rw [toNat_gpow H, toNat_gpow H, Nat.mod_eq_of_lt hi, Nat.mod_eq_of_lt hj] at this
  rw [← (E1 H hi).1, ← (E1 H hj).1, this]
theorem gpow_eq_pow (H : TableFacts p) (n : Nat) :
    letI := fieldOf p H
    Elt.gpow p n = (Elt.gpow p 1) ^ n := by
  let _ := fieldOf p H
  induction n with
  | zero => rw [gpow_zero H]; exact (pow_zero _).symm
  | succ n ih => rw [gpow_succ H, ih]; exact (pow_succ _ _).symm

theorem elt_char2 (a : Elt p) : a + a = 0 :=
  elt_ext (by simp only [toNat_add, toNat_zero, Nat.xor_self])

end EltLevel

end Pff.GFProofs
