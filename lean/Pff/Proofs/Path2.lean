import Pff.Proofs.Path
/-!
Normalised absolute paths (`GoodRoot`: `pre ++ joinSlash cs`, one or two slashes, then plain
components): fixed by `normpath` / `abspath`, closed under `join` with plain components, and
`relpath` from such a root gives the joined components back; `abspath` always returns one;
`basename` / `dirname` of a file directly below one.
-/
namespace Pff.Path

/-! ## normalised absolute paths `pre ++ joinSlash cs` -/

/-- the two possible prefixes of a normalised absolute path -/
def PreOK (pre : Bytes) : Prop := pre = [sep] ∨ pre = [sep, sep]

theorem initialSlashes_good {pre b : Bytes} (hpre : PreOK pre) (hb : b.head? ≠ some sep) :
    initialSlashes (pre ++ b) = pre.length := by
  cases b with
  | nil => rcases hpre with rfl | rfl <;> rfl
  | cons x r =>
    have hx : x ≠ 47 := by simpa [sep] using hb
    rcases hpre with rfl | rfl <;> simp [initialSlashes, sep, hx]

theorem normComps_filter (ini : Nat) (l : List Bytes) :
    ∀ acc, normComps ini (l.filter (fun x => !x.isEmpty)) acc = normComps ini l acc := by
  induction l with
  | nil => intro acc; rfl
  | cons c rest ih =>
    intro acc
    cases c with
    | nil => simpa [normComps] using ih acc
    | cons x r => simp only [List.filter_cons, List.isEmpty_cons, Bool.not_false, if_true, normComps, ih]

theorem normComps_plain (ini : Nat) {comps : List Bytes} :
    ∀ acc, AllPlain comps → normComps ini comps acc = acc ++ comps := by
  induction comps with
  | nil => intro acc _; simp [normComps]
  | cons c rest ih =>
    intro acc h
    have hc : Plain c := h c (by simp)
    rw [normComps, if_neg (not_or.2 ⟨hc.1, hc.2.2.1⟩), if_pos (Or.inl hc.2.2.2), ih _ h.tail,
      List.append_assoc, List.singleton_append]

theorem parts_good {pre : Bytes} {cs : List Bytes} (hpre : PreOK pre) (hc : AllPlain cs) :
    (splitSlash (pre ++ joinSlash cs)).filter (fun x => !x.isEmpty) = cs := by
  rcases hpre with rfl | rfl
  · simpa [splitSlash] using parts_joinSlash hc
  · simpa [splitSlash] using parts_joinSlash hc

theorem normpath_good {pre : Bytes} {cs : List Bytes} (hpre : PreOK pre) (hc : AllPlain cs) :
    normpath (pre ++ joinSlash cs) = pre ++ joinSlash cs := by
  have hrep : List.replicate pre.length sep = pre := by rcases hpre with rfl | rfl <;> rfl
  have hne : pre ≠ [] := by rcases hpre with rfl | rfl <;> simp
  have hsp : normComps pre.length (splitSlash (pre ++ joinSlash cs)) [] = cs := by
    rw [← normComps_filter, parts_good hpre hc, normComps_plain _ _ hc, List.nil_append]
  simp [normpath, initialSlashes_good hpre (joinSlash_head hc), hsp, hrep, hne]

theorem GoodRoot.head {r : Bytes} (hr : GoodRoot r) : r.head? = some sep := by
  obtain ⟨pre, cs, hpre | hpre, _, rfl⟩ := hr <;> subst hpre <;> rfl

theorem abspath_good_id (cwd : Bytes) {r : Bytes} (hr : GoodRoot r) : abspath cwd r = r := by
  rw [abspath, if_pos hr.head]
  obtain ⟨pre, cs, hpre, hc, rfl⟩ := hr
  exact normpath_good hpre hc

theorem good_getLast {pre : Bytes} {cs : List Bytes} (e : cs ≠ []) (hc : AllPlain cs) :
    (pre ++ joinSlash cs).getLast? ≠ some sep := by
  rw [getLast?_append_ne_nil _ (joinSlash_ne_nil e hc)]
  exact joinSlash_getLast e hc

theorem join_good {pre : Bytes} {cs L : List Bytes} (hpre : PreOK pre) (hc : AllPlain cs)
    (hL : AllPlain L) : L.foldl join2 (pre ++ joinSlash cs) = pre ++ joinSlash (cs ++ L) := by
  by_cases hne : L = []
  · subst hne; simp
  · have hh := joinSlash_head hL
    rw [foldl_join2 _ hne hL]
    by_cases e : cs = []
    · subst e
      rw [join2_endsep (by rcases hpre with rfl | rfl <;> rfl) hh]
      simp [joinSlash]
    · rw [join2_nosep (by simp [joinSlash_ne_nil e hc]) (good_getLast e hc) hh, joinSlash_append e hne,
        List.append_assoc]

theorem commonLen_prefix (a b : List Bytes) : commonLen a (a ++ b) = a.length := by
  induction a with
  | nil => cases b <;> rfl
  | cons x xs ih => simp [commonLen, ih]

/-- the key fact of relocation: the relative path, from a normalised root, of plain components
joined onto it is their '/'-join -/
theorem relpath_join (cwd : Bytes) {r : Bytes} (hr : GoodRoot r) {L : List Bytes} (hL : AllPlain L) :
    relpath cwd (L.foldl join2 r) r = some (if L = [] then [dot] else joinSlash L) := by
  obtain ⟨pre, cs, hpre, hc, rfl⟩ := hr
  have hcl := AllPlain.append hc hL
  have hne : (pre ++ joinSlash (cs ++ L)).isEmpty = false := by rcases hpre with rfl | rfl <;> rfl
  rw [join_good hpre hc hL, relpath, hne]
  simp only [Bool.false_eq_true, if_false]
  rw [abspath_good_id cwd ⟨pre, cs, hpre, hc, rfl⟩, abspath_good_id cwd ⟨pre, _, hpre, hcl, rfl⟩,
    parts_good hpre hc, parts_good hpre hcl, commonLen_prefix]
  simp only [Nat.sub_self, List.replicate_zero, List.nil_append, List.drop_left]
  cases L with
  | nil => rfl
  | cons a more => simp only [join_plain a more hL]; rfl

/-! ## `pureParts`, `path2unix` -/

theorem pureParts_rel {p : Bytes} (h : p.head? ≠ some sep) :
    pureParts p = (splitSlash p).filter (fun x => !x.isEmpty && x ≠ [dot]) := by
  cases p with
  | nil => rfl
  | cons x r =>
    have hx : x ≠ 47 := by simpa [sep] using h
    simp [pureParts, hx]

theorem pureParts_joinSlash {L : List Bytes} (hne : L ≠ []) (hL : AllPlain L) :
    pureParts (joinSlash L) = L := by
  rw [pureParts_rel (joinSlash_head hL), splitSlash_joinSlash hne hL.nosep, List.filter_eq_self]
  intro a ha
  simp [(hL a ha).1, (hL a ha).2.2.1]

theorem path2unix_joinSlash {L : List Bytes} (hne : L ≠ []) (hL : AllPlain L) :
    path2unix (joinSlash L) = some (joinSlash L) := by
  rw [path2unix, pureParts_joinSlash hne hL]
  cases L with
  | nil => exact absurd rfl hne
  | cons a more => simp only [join_plain a more hL]

/-- what the tools record for `join(root, rel)`: `rel` itself -/
theorem recorded_join2 (cwd : Bytes) {r : Bytes} (hr : GoodRoot r) {L : List Bytes} (hne : L ≠ [])
    (hL : AllPlain L) :
    (relpath cwd (join2 r (joinSlash L)) r).bind path2unix = some (joinSlash L) := by
  rw [← foldl_join2 r hne hL, relpath_join cwd hr hL, if_neg hne, Option.bind_some,
    path2unix_joinSlash hne hL]

/-! ## `abspath` always returns a normalised absolute path -/

theorem normComps_allPlain {ini : Nat} (hini : ini ≠ 0) (comps : List Bytes) :
    ∀ acc, (∀ c ∈ comps, sep ∉ c) → AllPlain acc → AllPlain (normComps ini comps acc) := by
  induction comps with
  | nil => intro acc _ ha; exact ha
  | cons c rest ih =>
    intro acc hc ha
    have hrest : ∀ x ∈ rest, sep ∉ x := fun x hx => hc x (List.mem_cons_of_mem _ hx)
    rw [normComps]
    split
    · exact ih acc hrest ha
    · rename_i h1
      rw [not_or] at h1
      split
      · rename_i h2
        refine ih _ hrest (ha.append (.single ⟨h1.1, hc c (by simp), h1.2, ?_⟩))
        rcases h2 with h2 | h2 | h2
        · exact h2
        · exact absurd h2.1 hini
        · exact absurd (ha _ (List.mem_of_getLast? h2)).2.2.2 (by simp)
      · exact ih _ hrest fun x hx => ha x (List.dropLast_subset _ hx)

theorem normpath_abs (r : Bytes) : GoodRoot (normpath (sep :: r)) := by
  have hi : initialSlashes (sep :: r) = 1 ∨ initialSlashes (sep :: r) = 2 := by
    unfold initialSlashes sep
    split
    · exact Or.inl rfl
    · exact Or.inr rfl
    · exact Or.inl rfl
    · rename_i h
      exact absurd rfl (h _)
  have hp : AllPlain (normComps (initialSlashes (sep :: r)) (splitSlash (sep :: r)) []) :=
    normComps_allPlain (by omega) _ _ (splitSlash_mem_nosep _) (by simp [AllPlain])
  unfold normpath
  simp only [List.isEmpty_cons, Bool.false_eq_true, if_false]
  generalize normComps (initialSlashes (sep :: r)) (splitSlash (sep :: r)) [] = comps at *
  rcases hi with hi | hi <;> rw [hi]
  · exact ⟨[sep], comps, Or.inl rfl, hp, by simp [List.replicate]⟩
  · exact ⟨[sep, sep], comps, Or.inr rfl, hp, by simp [List.replicate]⟩

/-- whatever the argument: the current directory need only be absolute -/
theorem abspath_abs (cwd p : Bytes) (hc : cwd.head? = some sep) : GoodRoot (abspath cwd p) := by
  have key : ∀ q : Bytes, q.head? = some sep → GoodRoot (normpath q) := by
    intro q hq
    obtain ⟨r, rfl⟩ := List.head?_eq_some_iff.1 hq
    exact normpath_abs r
  unfold abspath
  split
  · rename_i h; exact key p h
  · rename_i h
    obtain ⟨s, hs⟩ := join2_rel cwd
    rw [hs p h]
    exact key _ (by rw [head?_append_ne_nil _ (by rintro rfl; simp at hc)]; exact hc)

/-! ## `basename`, `dirname` -/

theorem afterLastSlash_snoc (Z : Bytes) {f : Bytes} (hf : sep ∉ f) :
    afterLastSlash (Z ++ sep :: f) = Z.length + 1 := by
  have h : ∀ a ∈ f.reverse, decide (a ≠ sep) = true := by
    intro a ha
    simpa using fun e : a = sep => hf (e ▸ List.mem_reverse.1 ha)
  rw [afterLastSlash, List.reverse_append, List.reverse_cons, List.append_assoc,
    List.takeWhile_append_of_pos h]
  simp
  omega

theorem basename_snoc (Z : Bytes) {f : Bytes} (hf : sep ∉ f) : basename (Z ++ sep :: f) = f := by
  rw [basename, afterLastSlash_snoc Z hf, List.append_cons]
  exact List.drop_left' (by simp)

theorem dirname_snoc (Z : Bytes) {f : Bytes} (hf : sep ∉ f) :
    dirname (Z ++ sep :: f) =
      if (Z ++ [sep]).any (· ≠ sep) then ((Z ++ [sep]).reverse.dropWhile (· = sep)).reverse
      else Z ++ [sep] := by
  rw [dirname, afterLastSlash_snoc Z hf, List.append_cons, List.take_left' (by simp)]
  simp

/-- single-file input: the root the tools take (`dirname`) and the name they record (`basename`) -/
theorem basename_dirname_join2 {r f : Bytes} (hr : GoodRoot r) (hf : Plain f) :
    basename (join2 r f) = f ∧ dirname (join2 r f) = r := by
  obtain ⟨pre, cs, hpre, hc, rfl⟩ := hr
  by_cases e : cs = []
  · subst e
    rw [join2_endsep (by rcases hpre with rfl | rfl <;> rfl) hf.head]
    rcases hpre with rfl | rfl
    · exact ⟨basename_snoc [] hf.2.1, (dirname_snoc [] hf.2.1).trans (by simp [joinSlash])⟩
    · exact ⟨basename_snoc [sep] hf.2.1, (dirname_snoc [sep] hf.2.1).trans (by simp [joinSlash])⟩
  · have h1 : pre ++ joinSlash cs ≠ [] := by simp [joinSlash_ne_nil e hc]
    have h2 := good_getLast (pre := pre) e hc
    rw [join2_nosep h1 h2 hf.head]
    refine ⟨basename_snoc _ hf.2.1, ?_⟩
    rw [dirname_snoc _ hf.2.1]
    obtain ⟨R, x, hR⟩ := (List.eq_nil_or_concat _).resolve_left h1
    rw [hR, List.concat_eq_append] at h2 ⊢
    have hx : x ≠ sep := by simpa using h2
    simp [hx]

end Pff.Path
