import Pff.Model.Layout
/-! Block layout (C10).  The header tool is the whole-file tool at a constant message size on the
first `headerSize` bytes (`layoutHeader_eq_layoutGen`, `assembleHeader_eq_assemble`), so every fact
is proved for `layoutGen` / `assemble` and carried over.  Core Lean only. -/
namespace Pff.Layout

theorem slice_length (content : Bytes) (b : Block) :
    (slice content b).length = min b.len (content.length - b.off) := by
  simp only [slice, List.length_take, List.length_drop]

/-- a block that ends inside the first `hs` bytes is read from them alone -/
theorem slice_take (content : Bytes) (hs : Nat) (b : Block) (h : b.off + b.len ≤ hs) :
    slice (content.take hs) b = slice content b := by
  simp only [slice]
  rw [List.drop_take, List.take_take, Nat.min_eq_left (by omega)]

theorem sum_map_eq {α : Type} (l : List α) (f g : α → Nat) (h : ∀ a ∈ l, f a = g a) :
    (l.map f).sum = (l.map g).sum := by
  rw [List.map_congr_left h]

/-! ## generation layout -/

theorem layoutGen_nil_of_ge (kOf : Nat → Nat) (size : Nat) (fuel c : Nat) (h : size ≤ c) :
    layoutGen kOf size fuel c = [] := by
  cases fuel with
  | zero => rfl
  | succ fuel => exact if_neg (by omega)

theorem layoutGen_cons (kOf : Nat → Nat) (size : Nat) (fuel c : Nat) (h : c < size) :
    layoutGen kOf size (fuel + 1) c =
      ⟨c, min (kOf c) (size - c), kOf c⟩ ::
        layoutGen kOf size fuel (c + min (kOf c) (size - c)) :=
  if_pos h

theorem layoutGen_tiles (kOf : Nat → Nat) (hk : ∀ x, 1 ≤ kOf x) (size : Nat) :
    ∀ fuel c, c ≤ size → size - c < fuel → Tiles (layoutGen kOf size fuel c) c size := by
  intro fuel
  induction fuel with
  | zero => intro c _ h; omega
  | succ fuel ih =>
    intro c hc hf
    by_cases h : c < size
    · rw [layoutGen_cons kOf size fuel c h]
      have := hk c
      exact ⟨rfl, by show 1 ≤ min (kOf c) (size - c); omega, ih _ (by omega) (by omega)⟩
    · rw [layoutGen_nil_of_ge kOf size _ c (by omega)]
      show c = size
      omega

/-- every generated block: own `k`, starts inside the file, length is `min k (remaining)` -/
theorem layoutGen_mem (kOf : Nat → Nat) (size : Nat) :
    ∀ fuel c b, b ∈ layoutGen kOf size fuel c →
      b.k = kOf b.off ∧ b.off < size ∧ b.len = min b.k (size - b.off) := by
  intro fuel
  induction fuel with
  | zero => intro c b hb; cases hb
  | succ fuel ih =>
    intro c b hb
    by_cases h : c < size
    · rw [layoutGen_cons kOf size fuel c h, List.mem_cons] at hb
      rcases hb with rfl | hb
      · exact ⟨rfl, h, rfl⟩
      · exact ih _ b hb
    · rw [layoutGen_nil_of_ge kOf size _ c (by omega)] at hb
      cases hb

/-- every generated block has the message length of its own offset; only the last may be short -/
theorem layoutGen_shape (kOf : Nat → Nat) (hk : ∀ x, 1 ≤ kOf x) (size fuel c : Nat) (b : Block)
    (hb : b ∈ layoutGen kOf size fuel c) :
    b.k = kOf b.off ∧ b.len ≤ b.k ∧ (b.len = b.k ∨ b.off + b.len = size) := by
  have h := layoutGen_mem kOf size fuel c b hb
  have := hk b.off
  omega

/-- what is read for a generated block lying inside `content`: between 1 and `b.k` bytes -/
theorem layoutGen_slice (kOf : Nat → Nat) (hk : ∀ x, 1 ≤ kOf x) (content : Bytes) (size fuel c : Nat)
    (hs : size ≤ content.length) (b : Block) (hb : b ∈ layoutGen kOf size fuel c) :
    b.k = kOf b.off ∧ 1 ≤ (slice content b).length ∧ (slice content b).length ≤ b.k := by
  have h := layoutGen_mem kOf size fuel c b hb
  have := hk b.off
  have := slice_length content b
  omega

/-- length of the track written for a run of the layout inside `content` -/
theorem chunks_length (kOf : Nat → Nat) (hk : ∀ x, 1 ≤ kOf x) (hashLen mbs : Nat)
    (H : Bytes → Bytes) (enc : Nat → Bytes → Bytes) (hH : ∀ m, (H m).length = hashLen)
    (henc : ∀ x m, 1 ≤ m.length → m.length ≤ kOf x → (enc (kOf x) m).length = mbs - kOf x)
    (content : Bytes) (size fuel c : Nat) (hs : size ≤ content.length) :
    (((layoutGen kOf size fuel c).map
        (fun b => H (slice content b) ++ enc b.k (slice content b))).flatten).length =
      ((layoutGen kOf size fuel c).map (fun b => hashLen + (mbs - b.k))).sum := by
  rw [List.length_flatten, List.map_map]
  congr 1
  apply List.map_congr_left
  intro b hb
  obtain ⟨h1, h2, h3⟩ := layoutGen_slice kOf hk content size fuel c hs b hb
  simp only [Function.comp, List.length_append, hH]
  rw [h1] at h3 ⊢
  rw [henc _ _ h2 h3]

/-- The header tool steps by `k` where `layoutGen` steps by the length read; the two differ only
after a short block, which is the last one either way. -/
theorem layoutHeader_eq_layoutGen (k hs size : Nat) :
    ∀ fuel i, layoutHeader k hs size fuel i = layoutGen (fun _ => k) (min hs size) fuel i := by
  intro fuel
  induction fuel with
  | zero => intro i; rfl
  | succ fuel ih =>
    intro i
    simp only [layoutHeader, layoutGen, ih]
    split
    · by_cases h : i + k ≤ min hs size
      · rw [Nat.min_eq_left (by omega)]
      · rw [layoutGen_nil_of_ge _ _ _ _ (by omega), layoutGen_nil_of_ge _ _ _ _ (by omega)]
    · rfl

theorem layoutHeader_mem (k hs size fuel i : Nat) (b : Block)
    (hb : b ∈ layoutHeader k hs size fuel i) :
    b.k = k ∧ b.off < min hs size ∧ b.len = min k (min hs size - b.off) := by
  rw [layoutHeader_eq_layoutGen] at hb
  obtain ⟨h1, h2, h3⟩ := layoutGen_mem _ _ _ _ b hb
  exact ⟨h1, h2, h1 ▸ h3⟩

/-! ## reading back -/

/-- the block that `assemble` makes of a layout block of a file whose track was generated with
`H` and `enc` -/
abbrev asmOf (H : Bytes → Bytes) (enc : Nat → Bytes → Bytes) (content : Bytes) (b : Block) : AsmBlock :=
  { off := b.off, msg := slice content b, k := b.k,
    hash := H (slice content b), ecc := enc b.k (slice content b) }

theorem assemble_eq_nil (kOf : Nat → Nat) (hashLen mbs : Nat) (content track : Bytes)
    (fuel c e : Nat) (h : track.length ≤ e ∨ content.length ≤ c) :
    assemble kOf hashLen mbs content track fuel c e = [] := by
  cases fuel with
  | zero => rfl
  | succ fuel =>
    simp only [assemble]
    rcases h with h | h
    · exact if_neg (by omega)
    · rw [List.drop_eq_nil_of_le h]
      simp only [List.take_nil, List.isEmpty_nil, if_true, ite_self]

/-- Reading back a generated track, whatever follows it (`G`): the blocks are those of the
generation layout, each with its own hash and parity.  The end is found on the file side (an empty
message), so the bytes after the track are never looked at. -/
theorem assemble_agree (kOf : Nat → Nat) (hk : ∀ x, 1 ≤ kOf x) (hashLen mbs : Nat)
    (H : Bytes → Bytes) (enc : Nat → Bytes → Bytes)
    (hH : ∀ m, (H m).length = hashLen)
    (henc : ∀ x m, 1 ≤ m.length → m.length ≤ kOf x → (enc (kOf x) m).length = mbs - kOf x)
    (hpos : ∀ x, 1 ≤ hashLen + (mbs - kOf x))
    (content G : Bytes) :
    ∀ fuel c pre,
      assemble kOf hashLen mbs content
          (pre ++ (((layoutGen kOf content.length fuel c).map
            (fun b => H (slice content b) ++ enc b.k (slice content b))).flatten ++ G)) fuel c pre.length =
        (layoutGen kOf content.length fuel c).map (asmOf H enc content) := by
  intro fuel
  induction fuel with
  | zero => intro c pre; rfl
  | succ fuel ih =>
    intro c pre
    by_cases h : c < content.length
    · rw [layoutGen_cons kOf content.length fuel c h]
      generalize hb : (⟨c, min (kOf c) (content.length - c), kOf c⟩ : Block) = b
      have hm : (content.drop c).take (kOf c) = slice content b := by
        subst hb
        simp only [slice]
        rw [List.take_eq_take_iff, List.length_drop]
        omega
      have hl : (slice content b).length = min (kOf c) (content.length - c) := by
        subst hb
        rw [slice_length]
        show min (min _ _) (_ - c) = _
        omega
      have hkc := hk c
      have he := henc c (slice content b) (by omega) (by omega)
      have hp := hpos c
      simp only [List.map_cons, List.flatten_cons, assemble, hm]
      subst hb
      rw [if_pos (by simp only [List.length_append, hH, he]; omega),
        if_neg (by rw [List.isEmpty_iff_length_eq_zero]; omega)]
      simp only [List.append_assoc, List.drop_left]
      rw [← List.append_assoc (H _), List.take_left' (by rw [List.length_append, hH, he]),
        List.take_left' (hH _), List.drop_left' (hH _), hl]
      have := ih (c + min (kOf c) (content.length - c))
        (pre ++ (H (slice content ⟨c, min (kOf c) (content.length - c), kOf c⟩) ++
          enc (kOf c) (slice content ⟨c, min (kOf c) (content.length - c), kOf c⟩)))
      simp only [List.append_assoc, List.length_append] at this ⊢
      rw [this]
    · rw [layoutGen_nil_of_ge kOf content.length _ c (by omega),
        assemble_eq_nil _ _ _ _ _ _ _ _ (Or.inr (by omega))]
      rfl

/-- For `1 ≤ k` the header tool assembles as the whole-file tool does at constant message size `k`
on the bytes read as header.  It steps by the nominal sizes where `assemble` steps by what was
read; the two differ only after a short read, and then both stop. -/
theorem assembleHeader_eq_assemble (k hashLen mbs readLen : Nat) (content track : Bytes) (hk : 1 ≤ k) :
    ∀ fuel i j,
      assembleHeader k hashLen mbs readLen content track fuel i j =
        assemble (fun _ => k) hashLen mbs (content.take readLen) track fuel i j := by
  intro fuel
  induction fuel with
  | zero => intro i j; rfl
  | succ fuel ih =>
    intro i j
    simp only [assembleHeader, assemble, ih]
    by_cases hj : j < track.length
    · by_cases hi : i < (content.take readLen).length
      · rw [if_pos ⟨hi, hj⟩, if_pos hj, if_neg (by
          rw [List.isEmpty_iff_length_eq_zero, List.length_take, List.length_drop]; omega)]
        congr 1
        · congr 1
          · rw [List.take_take, Nat.min_eq_left (Nat.le_add_right _ _)]
          · rw [List.drop_take, List.drop_drop, Nat.add_sub_cancel_left]
        · by_cases hfull : i + k ≤ (content.take readLen).length ∧
              j + (hashLen + (mbs - k)) ≤ track.length
          · congr 1
            · rw [List.length_take, List.length_drop]; omega
            · rw [List.length_take, List.length_drop]; omega
          · rw [assemble_eq_nil _ _ _ _ _ _ _ _ (by omega), assemble_eq_nil]
            simp only [List.length_take, List.length_drop] at hi hfull ⊢
            omega
      · rw [if_neg (fun h => hi h.1), if_pos hj, List.drop_eq_nil_of_le (by omega)]
        simp only [List.take_nil, List.isEmpty_nil, if_true]
    · rw [if_neg (fun h => hj h.2), if_neg hj]

theorem assembleHeader_agree (k hashLen mbs hs : Nat) (hk : 1 ≤ k)
    (H : Bytes → Bytes) (enc : Nat → Bytes → Bytes)
    (hH : ∀ m, (H m).length = hashLen)
    (henc : ∀ m, 1 ≤ m.length → m.length ≤ k → (enc k m).length = mbs - k)
    (hpos : 1 ≤ hashLen + (mbs - k))
    (content G : Bytes) (fuel i : Nat) (pre : Bytes) :
    assembleHeader k hashLen mbs hs content
        (pre ++ (((layoutHeader k hs content.length fuel i).map
          (fun b => H (slice content b) ++ enc b.k (slice content b))).flatten ++ G)) fuel i pre.length =
      (layoutHeader k hs content.length fuel i).map (asmOf H enc content) := by
  have hs' : ∀ b ∈ layoutGen (fun _ => k) (min hs content.length) fuel i,
      slice (content.take hs) b = slice content b := by
    intro b hb
    have := layoutGen_mem _ _ _ _ b hb
    exact slice_take content hs b (by omega)
  have h := assemble_agree (fun _ => k) (fun _ => hk) hashLen mbs H enc hH (fun _ => henc)
    (fun _ => hpos) (content.take hs) G fuel i pre
  rw [List.length_take,
    List.map_congr_left (g := fun b => H (slice content b) ++ enc b.k (slice content b))
      (fun b hb => by rw [hs' b hb]),
    List.map_congr_left (g := asmOf H enc content) (fun b hb => by simp only [asmOf, hs' b hb])] at h
  rw [assembleHeader_eq_assemble k hashLen mbs hs content _ hk, layoutHeader_eq_layoutGen, h]

/-! ## one iteration of the assemblers -/

theorem assemble_nil_of_ge (kOf : Nat → Nat) (hashLen mbs : Nat) (content track : Bytes)
    (fuel cur e : Nat) (h : track.length ≤ e) :
    assemble kOf hashLen mbs content track fuel cur e = [] :=
  assemble_eq_nil _ _ _ _ _ _ _ _ (Or.inl h)

theorem assemble_nil_of_empty (kOf : Nat → Nat) (hashLen mbs : Nat) (content track : Bytes)
    (fuel cur e : Nat) (h : ((content.drop cur).take (kOf cur)).isEmpty = true) :
    assemble kOf hashLen mbs content track (fuel + 1) cur e = [] := by
  simp only [assemble]
  rw [if_pos h, ite_self]

theorem assemble_cons (kOf : Nat → Nat) (hashLen mbs : Nat) (content track : Bytes)
    (fuel cur e : Nat) (h1 : e < track.length)
    (h2 : ¬ ((content.drop cur).take (kOf cur)).isEmpty = true) :
    assemble kOf hashLen mbs content track (fuel + 1) cur e =
      { off := cur, msg := (content.drop cur).take (kOf cur), k := kOf cur,
        hash := ((track.drop e).take (hashLen + (mbs - kOf cur))).take hashLen,
        ecc := ((track.drop e).take (hashLen + (mbs - kOf cur))).drop hashLen } ::
        assemble kOf hashLen mbs content track fuel
          (cur + ((content.drop cur).take (kOf cur)).length)
          (e + ((track.drop e).take (hashLen + (mbs - kOf cur))).length) := by
  simp only [assemble]
  rw [if_pos h1, if_neg h2]

theorem assembleHeader_nil_of_ge (k hashLen mbs readLen : Nat) (content track : Bytes)
    (fuel i j : Nat) (h : ¬ (i < (content.take readLen).length ∧ j < track.length)) :
    assembleHeader k hashLen mbs readLen content track fuel i j = [] := by
  cases fuel with
  | zero => rfl
  | succ fuel => exact if_neg h

theorem assembleHeader_cons (k hashLen mbs readLen : Nat) (content track : Bytes)
    (fuel i j : Nat) (h : i < (content.take readLen).length ∧ j < track.length) :
    assembleHeader k hashLen mbs readLen content track (fuel + 1) i j =
      { off := i, msg := ((content.take readLen).drop i).take k, k := k,
        hash := (track.drop j).take hashLen,
        ecc := (track.drop (j + hashLen)).take (mbs - k) } ::
        assembleHeader k hashLen mbs readLen content track fuel (i + k)
          (j + hashLen + (mbs - k)) :=
  if_pos h

/-! ## the blocks assembled are consecutive pieces of the file -/

/-- whole-file tool: the messages fit in what is left of the file -/
theorem assemble_msgs_length (kOf : Nat → Nat) (hashLen mbs : Nat) (content track : Bytes) :
    ∀ fuel cur e,
      (((assemble kOf hashLen mbs content track fuel cur e).map (·.msg)).flatten).length ≤
        content.length - cur := by
  intro fuel
  induction fuel with
  | zero => intro cur e; exact Nat.zero_le _
  | succ fuel ih =>
    intro cur e
    simp only [assemble]
    split
    · split
      · exact Nat.zero_le _
      · have h1 := ih (cur + ((content.drop cur).take (kOf cur)).length)
          (e + ((track.drop e).take (hashLen + (mbs - kOf cur))).length)
        have h2 := List.length_take_le' (kOf cur) (content.drop cur)
        rw [List.length_drop] at h2
        simp only [List.map_cons, List.flatten_cons, List.length_append]
        omega
    · exact Nat.zero_le _

/-- header tool: the messages fit in what is left of the header -/
theorem assembleHeader_msgs_length (k hashLen mbs readLen : Nat) (content track : Bytes) :
    ∀ fuel i j,
      (((assembleHeader k hashLen mbs readLen content track fuel i j).map (·.msg)).flatten).length ≤
        (content.take readLen).length - i := by
  intro fuel
  induction fuel with
  | zero => intro i j; exact Nat.zero_le _
  | succ fuel ih =>
    intro i j
    simp only [assembleHeader]
    split
    · have h1 := ih (i + k) (j + hashLen + (mbs - k))
      have h2 := List.length_take_le k ((content.take readLen).drop i)
      have h3 := List.length_take_le' k ((content.take readLen).drop i)
      rw [List.length_drop] at h3
      simp only [List.map_cons, List.flatten_cons, List.length_append]
      omega
    · exact Nat.zero_le _

/-- the bytes of the original file at the place of block `b` (`Pff.Bridge.origMsg` unfolds to it) -/
def piece (orig : Bytes) (b : AsmBlock) : Bytes := (orig.drop b.off).take b.msg.length

/-- whole-file tool: the blocks assembled sit one after the other, so the original bytes at their
places concatenate to a segment of the original -/
theorem assemble_pieces (kOf : Nat → Nat) (hashLen mbs : Nat) (content track orig : Bytes) :
    ∀ fuel c e,
      ((assemble kOf hashLen mbs content track fuel c e).map (piece orig)).flatten =
        (orig.drop c).take
          ((assemble kOf hashLen mbs content track fuel c e).map (·.msg)).flatten.length := by
  intro fuel
  induction fuel with
  | zero => intro c e; rfl
  | succ fuel ih =>
    intro c e
    simp only [assemble]
    split
    · split
      · rfl
      · simp only [List.map_cons, List.flatten_cons, List.length_append, ih, piece, List.take_add,
          List.drop_drop]
    · rfl

/-- header tool: same fact; the offsets step by `k`, which is the length of every block except
possibly the last one -/
theorem assembleHeader_pieces (k hashLen mbs r : Nat) (content track orig : Bytes) :
    ∀ fuel i j,
      ((assembleHeader k hashLen mbs r content track fuel i j).map (piece orig)).flatten =
        (orig.drop i).take
          ((assembleHeader k hashLen mbs r content track fuel i j).map (·.msg)).flatten.length := by
  intro fuel
  induction fuel with
  | zero => intro i j; rfl
  | succ fuel ih =>
    intro i j
    simp only [assembleHeader]
    split
    · by_cases hk : i + k ≤ (content.take r).length
      · have hl : (((content.take r).drop i).take k).length = k := by
          rw [List.length_take, List.length_drop]; omega
        simp only [List.map_cons, List.flatten_cons, List.length_append, ih, piece, List.take_add,
          List.drop_drop, hl]
      · rw [assembleHeader_nil_of_ge k hashLen mbs r content track fuel (i + k) _ (by omega)]
        simp only [List.map_cons, List.map_nil, List.flatten_cons, List.flatten_nil,
          List.append_nil, piece]
    · rfl

/-! ## truncated track (C13) -/

/-- a read that ends at or before `c` does not see that the track was cut at `c` -/
theorem read_take (t : Bytes) (c e m : Nat) (h : e + ((t.drop e).take m).length ≤ c) :
    ((t.take c).drop e).take m = (t.drop e).take m := by
  rw [List.drop_take, List.take_take]
  by_cases hm : m ≤ c - e
  · rw [Nat.min_eq_left hm]
  · rw [List.length_take] at h
    rw [List.take_of_length_le (i := m) (by omega), List.take_of_length_le (by omega)]

/-- a read inside the track is not empty -/
theorem read_pos (t : Bytes) (e m : Nat) (he : e < t.length) (hm : 1 ≤ m) :
    1 ≤ ((t.drop e).take m).length := by
  rw [List.length_take, List.length_drop]
  omega

/-- whole-file tool: the blocks whose hash+parity end at or before the cut `c` are assembled
identically from the truncated track -/
theorem assemble_take_prefix (kOf : Nat → Nat) (hashLen mbs : Nat) (content track : Bytes) (c : Nat)
    (hpos : ∀ x, 1 ≤ hashLen + (mbs - kOf x)) :
    ∀ fuel j cur e,
      e + (((assemble kOf hashLen mbs content track fuel cur e).take j).map
            (fun b => b.hash.length + b.ecc.length)).sum ≤ c →
      (assemble kOf hashLen mbs content (track.take c) fuel cur e).take j =
        (assemble kOf hashLen mbs content track fuel cur e).take j := by
  intro fuel
  induction fuel with
  | zero => intro j cur e _; rfl
  | succ fuel ih =>
    intro j cur e hj
    cases j with
    | zero => rfl
    | succ j =>
      by_cases h1 : e < track.length
      · by_cases h2 : ((content.drop cur).take (kOf cur)).isEmpty = true
        · rw [assemble_nil_of_empty kOf hashLen mbs content track _ _ _ h2,
            assemble_nil_of_empty kOf hashLen mbs content (track.take c) _ _ _ h2]
        · rw [assemble_cons kOf hashLen mbs content track _ _ _ h1 h2] at hj ⊢
          -- the lengths of the reads stay opaque: `omega` is dear on nested `min`s
          generalize hbuf : (track.drop e).take (hashLen + (mbs - kOf cur)) = buf at hj ⊢
          have hl : (buf.take hashLen).length + (buf.drop hashLen).length = buf.length := by
            rw [← List.length_append, List.take_append_drop]
          have hp : 1 ≤ buf.length := hbuf ▸ read_pos track e _ h1 (hpos cur)
          simp only [List.take_succ_cons, List.map_cons, List.sum_cons] at hj
          have h1' : e < (track.take c).length := by rw [List.length_take]; omega
          rw [assemble_cons kOf hashLen mbs content (track.take c) _ _ _ h1' h2,
            read_take track c e _ (by rw [hbuf]; omega), hbuf, List.take_succ_cons, List.take_succ_cons,
            ih j _ _ (by omega)]
      · rw [assemble_nil_of_ge kOf hashLen mbs content track _ _ _ (by omega),
          assemble_nil_of_ge kOf hashLen mbs content (track.take c) _ _ _
            (by rw [List.length_take]; omega)]

/-- the header tool's two reads are the two parts of one read of `hash ++ ecc` -/
theorem read_split (t : Bytes) (e a b : Nat) :
    (t.drop e).take a = ((t.drop e).take (a + b)).take a ∧
    (t.drop (e + a)).take b = ((t.drop e).take (a + b)).drop a := by
  rw [List.take_take, Nat.min_eq_left (Nat.le_add_right a b), List.drop_take, List.drop_drop,
    Nat.add_sub_cancel_left]
  exact ⟨rfl, rfl⟩

/-- header tool: same (the ecc position steps by the nominal chunk size, so the hypothesis is
generalised to "past the end of the track, or the chunks read so far end before the cut") -/
theorem assembleHeader_take_prefix (k hashLen mbs readLen : Nat) (content track : Bytes) (c : Nat)
    (hpos : 1 ≤ hashLen + (mbs - k)) :
    ∀ fuel j i e,
      (track.length ≤ e ∨
        e + (((assembleHeader k hashLen mbs readLen content track fuel i e).take j).map
              (fun b => b.hash.length + b.ecc.length)).sum ≤ c) →
      (assembleHeader k hashLen mbs readLen content (track.take c) fuel i e).take j =
        (assembleHeader k hashLen mbs readLen content track fuel i e).take j := by
  intro fuel
  induction fuel with
  | zero => intro j i e _; rfl
  | succ fuel ih =>
    intro j i e hj
    cases j with
    | zero => rfl
    | succ j =>
      by_cases h1 : i < (content.take readLen).length ∧ e < track.length
      · replace hj := hj.resolve_left (by omega)
        rw [assembleHeader_cons k hashLen mbs readLen content track _ _ _ h1,
          (read_split track e hashLen (mbs - k)).1, (read_split track e hashLen (mbs - k)).2] at hj ⊢
        generalize hbuf : (track.drop e).take (hashLen + (mbs - k)) = buf at hj ⊢
        have hfull : buf.length = hashLen + (mbs - k) ∨ track.length ≤ e + hashLen + (mbs - k) := by
          rw [← hbuf, List.length_take, List.length_drop]; omega
        have hp : 1 ≤ buf.length := hbuf ▸ read_pos track e _ h1.2 hpos
        have hl : (buf.take hashLen).length + (buf.drop hashLen).length = buf.length := by
          rw [← List.length_append, List.take_append_drop]
        simp only [List.take_succ_cons, List.map_cons, List.sum_cons] at hj
        have h1' : i < (content.take readLen).length ∧ e < (track.take c).length :=
          ⟨h1.1, by rw [List.length_take]; omega⟩
        rw [assembleHeader_cons k hashLen mbs readLen content (track.take c) _ _ _ h1',
          (read_split (track.take c) e hashLen (mbs - k)).1,
          (read_split (track.take c) e hashLen (mbs - k)).2,
          read_take track c e _ (by rw [hbuf]; omega), hbuf, List.take_succ_cons, List.take_succ_cons,
          ih j _ _ (by omega)]
      · rw [assembleHeader_nil_of_ge k hashLen mbs readLen content track _ _ _ h1,
          assembleHeader_nil_of_ge k hashLen mbs readLen content (track.take c) _ _ _
            (by rw [List.length_take (l := track)]; omega)]

end Pff.Layout
