import Pff.Model.Run
import Pff.Proofs.Scan
import Pff.Props.RunA
/-! Helper lemmas for `Pff/Props/RunB.lean` (part 2: the run on a cut ecc file). -/
namespace Pff.Run.RunB

open Pff.Ecc Pff.Layout Pff.Entry Pff.Scan

/-! ## `find` / `specNext` on a prefix of the stream -/

theorem find_take_some {sub S : Bytes} {c p i : Nat} (hm : 0 < sub.length)
    (h : find sub S p = some i) (hc : i + sub.length ≤ c) : find sub (S.take c) p = some i := by
  have hw := fun j => occ_window (marker := sub) (stream := S) (p := 0) (bs := c) (i := j) hm
  simp only [List.drop_zero, Nat.zero_add] at hw
  rw [find_eq_some_iff hm] at h ⊢
  exact ⟨(hw i).2 ⟨h.1, hc⟩, h.2.1, fun j hj hocc => h.2.2 j hj ((hw j).1 hocc).1⟩

theorem find_take_none {sub S : Bytes} {c p : Nat} (hm : 0 < sub.length)
    (h : find sub S p = none) : find sub (S.take c) p = none := by
  rw [find_eq_none_iff hm] at h ⊢
  intro j hj hocc
  have hw := occ_window (marker := sub) (stream := S) (p := 0) (bs := c) (i := j) hm
  rw [List.drop_zero, Nat.zero_add] at hw
  exact h j hj (hw.1 hocc).1

/-- the scanner's answer depends only on the stream up to the end of the marker that ends the entry -/
theorem specNext_take {S marker : Bytes} {c p a b : Nat} (hm : 0 < marker.length)
    (h : specNext S marker p = some (a, b)) (hc : b + marker.length ≤ c) :
    specNext (S.take c) marker p = some (a, b) := by
  unfold specNext at h ⊢
  split at h
  · cases h
  · rename_i s hs
    simp only [Option.some.injEq, Prod.mk.injEq] at h
    obtain ⟨ha, hb⟩ := h
    subst ha
    have hsl := ((find_eq_some_iff hm).1 hs).1.le hm
    cases hf : find marker S (s + marker.length) with
    | none =>
      rw [hf] at hb
      simp only [Option.getD_none] at hb
      have hT : S.take c = S := List.take_of_length_le (by omega)
      rw [hT, hs]
      simp only [hf, Option.getD_none, hb]
    | some e =>
      rw [hf] at hb
      simp only [Option.getD_some] at hb
      have hle := ((find_eq_some_iff hm).1 hf).2.1
      rw [find_take_some hm hs (by omega)]
      simp only
      rw [find_take_some hm hf (by omega)]
      simp only [Option.getD_some, hb]

/-! ## intended bounds -/

theorem intended_bounds (marker : Bytes) : ∀ (es : List Bytes) (off : Nat) (ab : Nat × Nat),
    ab ∈ intended marker off es →
      off + marker.length ≤ ab.1 ∧ ab.1 ≤ ab.2 ∧
        ab.2 ≤ off + ((es.map (fun e => marker ++ e)).flatten).length := by
  intro es
  induction es with
  | nil => intro off ab h; simp [intended] at h
  | cons e es ih =>
    intro off ab h
    simp only [intended, List.mem_cons] at h
    simp only [List.map_cons, List.flatten_cons, List.length_append]
    rcases h with h | h
    · subst h
      simp only
      omega
    · have := ih _ ab h
      omega

/-! ## the run on the cut stream visits the entries before the cut -/

theorem cut_visits (O : Ops) (P : Params) (fs : FS) (hm : 0 < marker.length) (S : Bytes) (c : Nat) :
    ∀ (es : List Bytes) (p off fuel j : Nat) (ab : Nat × Nat), Built S marker p off es →
      (intended marker off es)[j]? = some ab → ab.2 + marker.length ≤ c →
      ab.1 ≤ fuel + p →
      (runLoopEntries O P fs (S.take c) fuel p)[j]? = some (processEntry O P fs (S.take c) ab.1 ab.2) := by
  intro es
  induction es with
  | nil => intro p off fuel j ab _ hj; simp [intended] at hj
  | cons e es ih =>
    intro p off fuel j ab hB hj hc hfuel
    have hsn := hB.specNext_cons hm
    have hmem := intended_bounds marker (e :: es) off ab (List.mem_of_getElem? hj)
    have := hB.le
    cases fuel with
    | zero => omega
    | succ fuel =>
      cases j with
      | zero =>
        simp only [intended, List.getElem?_cons_zero, Option.some.injEq] at hj
        subst hj
        rw [runLoopEntries, specNext_take hm hsn hc]
        simp only [List.getElem?_cons_zero]
      | succ j =>
        simp only [intended, List.getElem?_cons_succ] at hj
        have hmem' := intended_bounds marker es _ ab (List.mem_of_getElem? hj)
        have hcb := C08_run_cursor_bounds O P fs (S.take c) (off + marker.length)
          (off + marker.length + e.length) (by omega)
        rw [runLoopEntries, specNext_take hm hsn (c := c) (by omega)]
        simp only [List.getElem?_cons_succ]
        exact ih _ _ fuel j ab (hB.tail hm hcb.1 hcb.2) hj hc (by omega)

theorem marker_pos : 0 < marker.length := by decide

theorem run_cut_prefix (O : Ops) (P : Params) (fs : FS) (pre : Bytes) (entries : List Bytes)
    (c j : Nat) (ab : Nat × Nat)
    (h : NoAccidental pre marker entries)
    (hj : (intended marker pre.length entries)[j]? = some ab)
    (hc : ab.2 + marker.length ≤ c)
    (hin : readsInside O P fs (build pre marker entries) ab.1 ab.2) :
    ((run O P fs ((build pre marker entries).take c)).outcomes[j]?).map view =
      ((run O P fs (build pre marker entries)).outcomes[j]?).map view := by
  have hm := marker_pos
  have hb := intended_bounds marker entries pre.length ab (List.mem_of_getElem? hj)
  have hSlen : (build pre marker entries).length =
      pre.length + ((entries.map (fun e => marker ++ e)).flatten).length := by
    simp only [build, List.length_append]
  by_cases hcS : (build pre marker entries).length ≤ c
  · rw [List.take_of_length_le hcS]
  · have hT : ((run O P fs ((build pre marker entries).take c)).outcomes)[j]? =
        some (processEntry O P fs ((build pre marker entries).take c) ab.1 ab.2) := by
      unfold run
      simp only
      apply cut_visits O P fs hm (build pre marker entries) c entries 0 _ _ j ab
        (Built.of_noAccidental hm h) hj hc
      rw [List.length_take]
      omega
    rw [hT, C08_run_visits O P fs pre entries h, List.getElem?_map, hj]
    simp only [Option.map_some]
    have hsplit : (build pre marker entries).take c =
        (build pre marker entries).take ab.2 ++ ((build pre marker entries).take c).drop ab.2 := by
      have : (build pre marker entries).take ab.2 = ((build pre marker entries).take c).take ab.2 := by
        rw [List.take_take, Nat.min_eq_left (by omega)]
      rw [this, List.take_append_drop]
    rw [hsplit]
    exact congrArg some (C08_run_reads_inside O P fs (build pre marker entries) _ ab.1 ab.2
      hb.2.1 (by omega) (Or.inl (by omega)) hin).1

end Pff.Run.RunB
