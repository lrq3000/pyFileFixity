import Pff.Proofs.RunA
/-! Helper lemmas for the whole-run theorems (`Pff/Props/RunA.lean`), part 2: the loop over the
entries of a generated stream. -/
namespace Pff.Run

open Pff.Ecc Pff.Layout Pff.Entry Pff.Scan

theorem marker_pos : 0 < marker.length := by decide

theorem runLoopEntries_succ (O : Ops) (P : Params) (fs : FS) (stream : Bytes) (fuel cursor : Nat) :
    runLoopEntries O P fs stream (fuel + 1) cursor =
      match specNext stream marker cursor with
      | none => []
      | some (a, b) =>
        processEntry O P fs stream a b ::
          runLoopEntries O P fs stream fuel (processEntry O P fs stream a b).cursor := rfl

/-- the loop on a generated stream, from any cursor not past the first marker, with any
sufficient fuel -/
theorem runLoopEntries_built (O : Ops) (P : Params) (fs : FS) (S : Bytes) :
    ∀ (es : List Bytes) (p off fuel : Nat), Built S marker p off es → es.length < fuel →
      runLoopEntries O P fs S fuel p =
        (intended marker off es).map (fun ab => processEntry O P fs S ab.1 ab.2) := by
  have hm := marker_pos
  intro es
  induction es with
  | nil =>
    intro p off fuel h hfuel
    obtain ⟨f, rfl⟩ := Nat.exists_eq_add_one_of_ne_zero (Nat.ne_of_gt hfuel)
    rw [runLoopEntries_succ, h.specNext_nil hm]
    rfl
  | cons e es ih =>
    intro p off fuel h hfuel
    obtain ⟨f, rfl⟩ := Nat.exists_eq_add_one_of_ne_zero (Nat.ne_of_gt (Nat.zero_lt_of_lt hfuel))
    have hcur := cursor_bounds O P fs S (off + marker.length)
      (off + marker.length + e.length) (Nat.le_add_right _ _)
    rw [runLoopEntries_succ, h.specNext_cons hm]
    simp only [intended, List.map_cons]
    rw [ih _ _ f (h.tail hm hcur.1 hcur.2) (Nat.lt_of_succ_lt_succ hfuel)]

theorem intended_length (mk : Bytes) : ∀ (es : List Bytes) (off : Nat),
    (intended mk off es).length = es.length := by
  intro es
  induction es with
  | nil => intro off; rfl
  | cons e es ih =>
    intro off
    simp only [intended, List.length_cons, ih]

theorem run_visits (O : Ops) (P : Params) (fs : FS) (pre : Bytes) (entries : List Bytes)
    (h : NoAccidental pre marker entries) :
    (run O P fs (build pre marker entries)).outcomes =
      (intended marker pre.length entries).map
        (fun ab => processEntry O P fs (build pre marker entries) ab.1 ab.2) := by
  have hB := Built.of_noAccidental marker_pos h
  have := hB.length_le marker_pos
  exact runLoopEntries_built O P fs _ entries 0 _ _ hB (by omega)

/-! ## where entry `j` sits in a generated stream -/

theorem intended_decomp (mk : Bytes) (hm : 0 < mk.length) :
    ∀ (es : List Bytes) (pre : Bytes) (j : Nat) (hj : j < es.length),
      ∃ X Z : Bytes, build pre mk es = X ++ es[j] ++ Z ∧
        (intended mk pre.length es)[j]? = some (X.length, X.length + es[j].length) ∧
        (Z = [] ↔ j + 1 = es.length) := by
  intro es
  induction es with
  | nil => intro pre j hj; simp only [List.length_nil, Nat.not_lt_zero] at hj
  | cons e es ih =>
    intro pre j hj
    cases j with
    | zero =>
      refine ⟨pre ++ mk, (es.map (fun e => mk ++ e)).flatten, ?_, ?_, ?_⟩
      · simp only [build, List.map_cons, List.flatten_cons, List.getElem_cons_zero, List.append_assoc]
      · simp only [intended, List.getElem?_cons_zero, List.length_append, List.getElem_cons_zero]
      · cases es with
        | nil => simp only [List.map_nil, List.flatten_nil, List.length_cons, List.length_nil]
        | cons e' es' =>
          simp only [List.map_cons, List.flatten_cons, List.length_cons]
          constructor
          · intro h0
            have := congrArg List.length h0
            simp only [List.length_append, List.length_nil] at this
            omega
          · intro h0; omega
    | succ j =>
      have hj' : j < es.length := by simp only [List.length_cons] at hj; omega
      obtain ⟨X, Z, h1, h2, h3⟩ := ih (pre ++ mk ++ e) j hj'
      refine ⟨X, Z, ?_, ?_, ?_⟩
      · rw [← build_cons, h1]
        simp only [List.getElem_cons_succ]
      · simp only [List.length_append] at h2
        simp only [intended, List.getElem?_cons_succ, List.getElem_cons_succ]
        exact h2
      · rw [h3]
        simp only [List.length_cons]
        omega

/-! ## independence -/

theorem run_getElem? (O : Ops) (P : Params) (fs : FS) (pre : Bytes) (entries : List Bytes)
    (h : NoAccidental pre marker entries) (j : Nat) :
    (run O P fs (build pre marker entries)).outcomes[j]? =
      ((intended marker pre.length entries)[j]?).map
        (fun ab => processEntry O P fs (build pre marker entries) ab.1 ab.2) := by
  rw [run_visits O P fs pre entries h, List.getElem?_map]

theorem run_independent (O : Ops) (P : Params) (fs : FS) (pre : Bytes) (entries : List Bytes)
    (v j : Nat) (V' : Bytes) (_hv : v < entries.length) (hj : j < entries.length) (hjv : j ≠ v)
    (h : NoAccidental pre marker entries) (h' : NoAccidental pre marker (entries.set v V'))
    (hin : ∀ ab, (intended marker pre.length entries)[j]? = some ab →
      readsInside O P fs (build pre marker entries) ab.1 ab.2) :
    ((run O P fs (build pre marker (entries.set v V'))).outcomes[j]?).map view =
      ((run O P fs (build pre marker entries)).outcomes[j]?).map view ∧
    (run O P fs (build pre marker (entries.set v V'))).outcomes.length = entries.length := by
  have hm := marker_pos
  refine ⟨?_, ?_⟩
  · have hj' : j < (entries.set v V').length := by rw [List.length_set]; exact hj
    obtain ⟨X, Z, e1, e2, e3⟩ := intended_decomp marker hm entries pre j hj
    obtain ⟨X', Z', e1', e2', e3'⟩ := intended_decomp marker hm (entries.set v V') pre j hj'
    have hej : (entries.set v V')[j] = entries[j] := List.getElem_set_ne (Ne.symm hjv) _
    rw [hej] at e1' e2'
    rw [List.length_set] at e3'
    rw [run_getElem? O P fs pre _ h', run_getElem? O P fs pre _ h, e2, e2']
    simp only [Option.map_some, Option.some.injEq]
    have hrd := hin _ e2
    simp only at hrd
    generalize entries[j] = ej at *
    generalize build pre marker entries = S at *
    generalize build pre marker (entries.set v V') = S' at *
    subst e1 e1'
    -- reads inside: what follows the entry can be replaced
    have htake : (X ++ ej ++ Z).take (X.length + ej.length) = X ++ ej :=
      List.take_left' (by rw [List.length_append])
    have hb : X.length + ej.length ≤ (X ++ ej ++ Z).length := by
      simp only [List.length_append]; omega
    have hY : X.length + ej.length < (X ++ ej ++ Z).length ∨ Z' = [] := by
      by_cases hlast : j + 1 = entries.length
      · exact Or.inr (e3'.2 hlast)
      · left
        have : Z ≠ [] := fun hz => hlast (e3.1 hz)
        have := List.length_pos_iff.2 this
        simp only [List.length_append]
        omega
    have h5 := reads_inside O P fs (X ++ ej ++ Z) Z' X.length (X.length + ej.length)
      (Nat.le_add_right _ _) hb hY hrd
    rw [htake] at h5
    rw [← h5]
    -- locality
    refine (run_local O P fs _ _ _ _ _ _ (Nat.le_add_right _ _) (Nat.le_add_right _ _) (by omega) ?_).1
    rw [List.append_assoc, List.append_assoc, List.drop_left, List.drop_left]
    congr 1
    omega
  · rw [run_visits O P fs pre _ h', List.length_map, intended_length, List.length_set]

/-! ## regression witness: the side condition of `C08_run_reads_inside` is needed -/

namespace Witness
def O : Ops := ⟨fun _ => [], fun _ _ => [], fun _ _ ecc => ecc != [7, 9], fun _ _ _ => none⟩
def P : Params := ⟨.whole, false, 10, 0, 3, 10, 1, fun _ _ => 1, 1, false⟩
def fs : FS := [([65], [5])]
/-- one entry (path `A`, size `1`, two intra-ecc fields) whose track is one byte short -/
def S : Bytes := [65] ++ delim ++ [49] ++ delim ++ [1, 1] ++ delim ++ [1, 1] ++ delim ++ [7]
end Witness

open Witness in
/-- Why `C08_run_reads_inside` needs `b < S.length ∨ Y = []`: for the last entry of the file
(`b = S.length`) `readsInside` holds vacuously (reads are clipped at the end of the file), yet a
track that is one byte short picks up the byte appended after it. -/
theorem reads_inside_needs_hY :
    ¬ ∀ (O : Ops) (P : Params) (fs : FS) (S Y : Bytes) (a b : Nat), a ≤ b → b ≤ S.length →
        readsInside O P fs S a b →
        view (processEntry O P fs (S.take b ++ Y) a b) = view (processEntry O P fs S a b) := by
  intro h
  have hri : readsInside O P fs S 0 27 := by
    unfold readsInside
    split
    · trivial
    · trivial
    · rename_i size content _ ht
      have ht0 : (locate O P fs S 0 27).target = some (1, [5]) := by decide
      rw [ht0] at ht
      simp only [Option.some.injEq, Prod.mk.injEq] at ht
      obtain ⟨rfl, rfl⟩ := ht
      decide
  have := h O P fs S [9] 0 27 (by decide) (by decide) hri
  revert this
  decide

end Pff.Run
