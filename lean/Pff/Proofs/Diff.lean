import Pff.Model.Diff
/-! Helper lemmas for C20 (resilience-tester metrics): both file loops read the two files in
chunks of `bs` bytes, so each is settled by how its specification behaves under a cut of both
files at the same offset. -/
namespace Pff.Diff

/-! ## cutting two lists at the same offset -/

theorem length_take_add_length_drop {α : Type} (n : Nat) (l : List α) :
    (l.take n).length + (l.drop n).length = l.length := by
  rw [← List.length_append, List.take_append_drop]

theorem eq_iff_take_drop {α : Type} (n : Nat) (a b : List α) :
    a = b ↔ a.take n = b.take n ∧ a.drop n = b.drop n := by
  constructor
  · rintro rfl
    exact ⟨rfl, rfl⟩
  · rintro ⟨ht, hd⟩
    rw [← List.take_append_drop n a, ht, hd, List.take_append_drop]

theorem take_eq_nil_iff_of_pos {bs : Nat} (hbs : 0 < bs) (a : Bytes) : a.take bs = [] ↔ a = [] := by
  simp only [List.take_eq_nil_iff, Nat.ne_of_gt hbs, false_or]

/-! ## `hamming` -/

theorem hamming_nil_left (b : Bytes) : hamming [] b = 0 := by
  unfold hamming; rfl

theorem hamming_nil_right (a : Bytes) : hamming a [] = 0 := by
  cases a <;> (unfold hamming; rfl)

theorem hamming_cons (x y : Nat) (xs ys : Bytes) :
    hamming (x :: xs) (y :: ys) = (if x = y then 0 else 1) + hamming xs ys := by
  rw [hamming]

theorem hamming_take_drop (n : Nat) (a b : Bytes) :
    hamming a b = hamming (a.take n) (b.take n) + hamming (a.drop n) (b.drop n) := by
  induction n generalizing a b with
  | zero => simp only [List.take_zero, List.drop_zero, hamming_nil_left, Nat.zero_add]
  | succ n ih =>
    cases a with
    | nil => simp only [List.take_nil, List.drop_nil, hamming_nil_left, Nat.add_zero]
    | cons x xs =>
      cases b with
      | nil => simp only [List.take_nil, List.drop_nil, hamming_nil_right, Nat.add_zero]
      | cons y ys =>
        simp only [List.take_succ_cons, List.drop_succ_cons, hamming_cons, ih xs ys, Nat.add_assoc]

theorem hamming_eq_zero_iff (a b : Bytes) (hl : a.length = b.length) : hamming a b = 0 ↔ a = b := by
  induction a generalizing b with
  | nil => rw [hamming_nil_left, List.length_eq_zero_iff.mp hl.symm]; exact iff_of_true rfl rfl
  | cons x xs ih =>
    cases b with
    | nil => cases hl
    | cons y ys =>
      simp only [hamming_cons, Nat.add_eq_zero_iff, ih ys (Nat.succ.inj hl), List.cons.injEq,
        ite_eq_left_iff, Nat.succ_ne_zero, imp_false, Decidable.not_not]

/-! ## `diffBytesSpec`, by recursion on the two files -/

theorem min_add_absDiff (m n : Nat) : min m n + absDiff m n = max m n := by
  unfold absDiff
  rcases Nat.le_total m n with h | h
  · rw [Nat.min_eq_left h, Nat.max_eq_right h, Nat.sub_eq_zero_of_le h, Nat.zero_add,
      Nat.add_sub_cancel' h]
  · rw [Nat.min_eq_right h, Nat.max_eq_left h, Nat.sub_eq_zero_of_le h, Nat.add_zero,
      Nat.add_sub_cancel' h]

theorem diffBytesSpec_nil_right (a : Bytes) : diffBytesSpec a [] = (a.length, a.length) := by
  simp only [diffBytesSpec, hamming_nil_right, absDiff, List.length_nil, Nat.zero_add,
    Nat.sub_zero, Nat.zero_sub, Nat.add_zero, Nat.max_zero]

theorem diffBytesSpec_nil_left (b : Bytes) : diffBytesSpec [] b = (b.length, b.length) := by
  simp only [diffBytesSpec, hamming_nil_left, absDiff, List.length_nil, Nat.zero_add,
    Nat.sub_zero, Nat.zero_sub, Nat.zero_max]

theorem diffBytesSpec_cons (x y : Nat) (xs ys : Bytes) :
    diffBytesSpec (x :: xs) (y :: ys) =
      ((if x = y then 0 else 1) + (diffBytesSpec xs ys).1, 1 + (diffBytesSpec xs ys).2) := by
  simp only [diffBytesSpec, hamming_cons, absDiff, List.length_cons, Nat.add_sub_add_right,
    Nat.add_max_add_right, Nat.add_assoc, Nat.add_comm 1]

/-- The metric is additive over a cut of both files at the same offset. Proved from the three
equations above: unfolding `absDiff`, `min` and `max` of the six lengths instead leaves a goal
that `omega` needs tens of millions of heartbeats for. -/
theorem diffBytesSpec_take_drop (n : Nat) (a b : Bytes) :
    diffBytesSpec a b =
      ((diffBytesSpec (a.take n) (b.take n)).1 + (diffBytesSpec (a.drop n) (b.drop n)).1,
       (diffBytesSpec (a.take n) (b.take n)).2 + (diffBytesSpec (a.drop n) (b.drop n)).2) := by
  induction n generalizing a b with
  | zero => simp only [List.take_zero, List.drop_zero, diffBytesSpec_nil_left, List.length_nil,
      Nat.zero_add]
  | succ n ih =>
    cases a with
    | nil => simp only [List.take_nil, List.drop_nil, diffBytesSpec_nil_left,
        length_take_add_length_drop]
    | cons x xs =>
      cases b with
      | nil => simp only [List.take_nil, List.drop_nil, diffBytesSpec_nil_right,
          length_take_add_length_drop]
      | cons y ys =>
        simp only [List.take_succ_cons, List.drop_succ_cons, diffBytesSpec_cons, ih xs ys,
          Nat.add_assoc]

/-! ## folds with a pair accumulator -/

theorem foldl_pair_sum {α : Type} (step : Nat × Nat → α → Nat × Nat) (f g : α → Nat)
    (l : List α) (hstep : ∀ acc e, step acc e = (acc.1 + f e, acc.2 + g e)) :
    l.foldl step (0, 0) = ((l.map f).sum, (l.map g).sum) := by
  suffices ∀ acc, l.foldl step acc = (acc.1 + (l.map f).sum, acc.2 + (l.map g).sum) by
    simpa only [Nat.zero_add] using this (0, 0)
  induction l with
  | nil => exact fun acc => rfl
  | cons e es ih =>
    simp only [List.foldl_cons, List.map_cons, List.sum_cons, ih, hstep, Nat.add_assoc,
      implies_true]

theorem foldl_pair_count {α : Type} (step : Nat × Nat → α → Nat × Nat) (p : α → Bool)
    (l : List α)
    (hstep : ∀ acc e, step acc e = (if p e = true then acc.1 + 1 else acc.1, acc.2 + 1)) :
    l.foldl step (0, 0) = ((l.filter p).length, l.length) := by
  suffices ∀ acc, l.foldl step acc = (acc.1 + (l.filter p).length, acc.2 + l.length) by
    simpa only [Nat.zero_add] using this (0, 0)
  induction l with
  | nil => exact fun acc => rfl
  | cons e es ih =>
    intro acc
    rw [List.foldl_cons, ih, hstep, List.filter_cons, List.length_cons, Nat.add_assoc,
      Nat.add_comm 1]
    split
    · rw [List.length_cons, Nat.add_assoc, Nat.add_comm 1]
    · rfl

end Pff.Diff
