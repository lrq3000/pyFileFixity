import Pff.Props.BridgeSpec
import Pff.Props.C01
import Pff.Props.C02
import Pff.Props.C09
import Pff.Props.C11
/-!
The per-block premises of C01 / C09 for the facade `Ops`, for either byte field.

* A list of bytes is the image under `ofElts` of a list of field elements, and `Elt.toNat` is
  injective: distances and error positions of byte words are those of the field words, and the
  facade `Ops` on images is the facade model itself (`enc_ofElts`, `chk_ofElts`, `dec_of_decode`).
* `ByteCodec c`: a codec object over a byte field whose tables are right.  The general theorems of
  C02 / C11 are over a `Field`; at `fieldOf p tables` its operations are the model's own by `rfl`,
  so they hold with the model's instances (`CodecFacts`, `DecFacts`), for codecs 1–3 and codec 4 alike.
* `Repairs`: what every user of a codec wants of a damaged block.
-/
namespace Pff.BridgeProofs

open Pff.GF Pff.Facade Pff.Ecc Pff.Layout Pff.RSSpec Pff.Entry Pff.Bridge Pff.RSProofs Pff.GFProofs

/-! ### bytes and field elements -/
section Conv
variable {p : Params}

theorem length_toElts (l : List Nat) : (toElts p l).length = l.length := List.length_map _

theorem length_ofElts (l : List (Elt p)) : (ofElts l).length = l.length := List.length_map _

theorem ofElts_append (a b : List (Elt p)) : ofElts (a ++ b) = ofElts a ++ ofElts b := List.map_append

theorem toElts_ofElts (l : List (Elt p)) : toElts p (ofElts l) = l := by
  simp only [toElts, ofElts, List.map_map, Function.comp_def, ofNat_toNat, List.map_id']

theorem ofElts_toElts (l : List Nat) (hl : IsBytes l) : ofElts (toElts p l) = l := by
  rw [toElts, ofElts, List.map_map]
  exact (List.map_congr_left fun x hx => toNat_ofNat (hl x hx)).trans (List.map_id l)

theorem bytes_ofElts (l : List (Elt p)) : IsBytes (ofElts l) := by
  intro x hx
  obtain ⟨a, _, rfl⟩ := List.mem_map.mp hx
  exact toNat_lt a

/-- a list of bytes is the image of a list of field elements -/
theorem exists_ofElts {l : List Nat} (h : IsBytes l) : ∃ L : List (Elt p), l = ofElts L :=
  ⟨_, (ofElts_toElts l h).symm⟩

theorem hdist_ofElts (a b : List (Elt p)) : hdist (ofElts a) (ofElts b) = hdist a b :=
  hdist_map toNat_injective a b

theorem errorsOutside_ofElts (w cw : List (Elt p)) (l : List Nat) :
    errorsOutside (ofElts w) (ofElts cw) l = errorsOutside w cw l :=
  errorsOutside_map toNat_injective w cw l

theorem erasedPos_ofElts (w : List (Elt p)) {sym : Nat} (hsym : sym < 256) :
    erasedPos (ofElts w) sym =
      (List.range w.length).filter (fun i => w[i]? = some (Elt.ofNat p sym)) := by
  have := erased_map toNat_injective w (Elt.ofNat p sym)
  rwa [toNat_ofNat hsym] at this

end Conv

/-! ### what is needed of the facade, with the model's own instances -/

structure CodecFacts {p : Params} (c : Codec (Elt p)) : Prop where
  encLen : ∀ (msg : List (Elt p)) (k : Nat), msg.length ≤ effK c k → effK c k ≤ c.n →
    (encode c msg k).length = c.n - effK c k
  accepts : ∀ (msg : List (Elt p)) (k : Nat), msg.length ≤ effK c k → effK c k ≤ c.n →
    check c msg (encode c msg k) k = true
  detects : ∀ (msg : List (Elt p)) (k : Nat), msg.length ≤ effK c k → effK c k ≤ c.n →
    ∀ (msg' ecc' : List (Elt p)), msg'.length = msg.length → ecc'.length = c.n - effK c k →
    1 ≤ hdist (msg' ++ ecc') (msg ++ encode c msg k) →
    hdist (msg' ++ ecc') (msg ++ encode c msg k) ≤ c.n - effK c k →
    check c msg' ecc' k = false

structure DecFacts {p : Params} (c : Codec (Elt p)) (core : Core (Elt p)) : Prop where
  errors : ∀ (msg : List (Elt p)) (k : Nat), msg.length ≤ effK c k → effK c k ≤ c.n →
    ∀ (msg' ecc' : List (Elt p)), msg'.length = msg.length → ecc'.length = c.n - effK c k →
    2 * hdist (msg' ++ ecc') (msg ++ encode c msg k) ≤ c.n - effK c k →
    decode core c msg' ecc' k false (Elt.ofNat p 0) false = .ok (msg, encode c msg k)
  erasures : ∀ (msg : List (Elt p)) (k : Nat), msg.length ≤ effK c k → effK c k ≤ c.n →
    ∀ (msg' ecc' : List (Elt p)), msg'.length = msg.length → ecc'.length = c.n - effK c k →
    ∀ (ec : Elt p),
    2 * errorsOutside (msg' ++ ecc') (msg ++ encode c msg k)
                ((List.range (msg' ++ ecc').length).filter (fun i => (msg' ++ ecc')[i]? = some ec))
            + ((List.range (msg' ++ ecc').length).filter (fun i => (msg' ++ ecc')[i]? = some ec)).length
            ≤ c.n - effK c k →
    decode core c msg' ecc' k true ec false = .ok (msg, encode c msg k)

/-- a codec object as `ECCMan.__init__` builds it over a byte field whose tables are right -/
structure ByteCodec {p : Params} (c : Codec (Elt p)) : Prop where
  tables : TableFacts p
  pw : c.pw = Elt.gpow p
  algo : c.algo = 1 ∨ c.algo = 2 ∨ c.algo = 3 ∨ c.algo = 4
  n_le : c.n ≤ 255

/-- codecs 1–3 (`--ecc_algo 1|2|3`) -/
theorem byteCodecA (algo n k0 : Nat) (ha : algo = 1 ∨ algo = 2 ∨ algo = 3) (hn : n ≤ 255) :
    ByteCodec (codecA algo n k0) :=
  ⟨factsA, rfl, by rcases ha with h | h | h <;> simp [codecA, h], hn⟩

/-- codec 4 (`--ecc_algo 4`) -/
theorem byteCodecB (n k0 : Nat) (hn : n ≤ 255) : ByteCodec (codecB n k0) :=
  ⟨factsB, rfl, by simp [codecB], hn⟩

namespace ByteCodec
variable {p : Params} {c : Codec (Elt p)} (h : ByteCodec c)
include h

theorem encLen (msg : List (Elt p)) (k : Nat) : (encode c msg k).length = c.n - effK c k := by
  let _ := fieldOf p h.tables
  exact length_encode c (goodCodec_of p h.tables c h.pw h.algo h.n_le) msg k

theorem accepts (msg : List (Elt p)) (k : Nat) : check c msg (encode c msg k) k = true := by
  let _ := fieldOf p h.tables
  exact check_encode c (goodCodec_of p h.tables c h.pw h.algo h.n_le) msg k

theorem facts : CodecFacts c := by
  let _ := fieldOf p h.tables
  exact ⟨fun msg k _ _ => h.encLen msg k, fun msg k _ _ => h.accepts msg k,
    C11_detects c (goodCodec_of p h.tables c h.pw h.algo h.n_le)⟩

theorem dec (core : Core (Elt p)) (hW : CoreW c core) : DecFacts c core := by
  let _ := fieldOf p h.tables
  have hc := goodCodec_of p h.tables c h.pw h.algo h.n_le
  exact ⟨C02_decode_exact_errors c hc core hW, C02_decode_exact_erasures c hc core hW⟩

end ByteCodec

/-! ### the facade `Ops` on images -/
section Facade
variable {p : Params} (c : Codec (Elt p)) (core : Core (Elt p)) (H : List Nat → List Nat)
  (en : Bool) (sym : Nat) (oe : Bool)

theorem enc_ofElts (k : Nat) (M : List (Elt p)) :
    (opsOfFacade c core H en sym oe).enc k (ofElts M) = ofElts (encode c M k) := by
  simp only [opsOfFacade, toElts_ofElts]

theorem chk_ofElts (k : Nat) (M E : List (Elt p)) :
    (opsOfFacade c core H en sym oe).chk k (ofElts M) (ofElts E) = check c M E k := by
  simp only [opsOfFacade, toElts_ofElts]

theorem dec_of_decode {k : Nat} {M E a b : List (Elt p)}
    (h : decode core c M E k en (Elt.ofNat p sym) oe = .ok (a, b)) :
    (opsOfFacade c core H en sym oe).dec k (ofElts M) (ofElts E) = some (ofElts a, ofElts b) := by
  simp only [opsOfFacade, toElts_ofElts, h]

theorem effK_pos (k : Nat) (hk : 1 ≤ k) : effK c k = k := if_neg (by omega)

end Facade

/-! ### within capacity, the facade repairs -/

/-- what every user of a codec wants of a damaged block `msg' ++ ecc'` of the message `m0`: the
decoder returns `m0` with its parity, that parity passes the check, and the check is not fooled -/
def Repairs (O : Ops) (k : Nat) (m0 msg' ecc' : List Nat) : Prop :=
  O.dec k msg' ecc' = some (m0, O.enc k m0) ∧ O.chk k m0 (O.enc k m0) = true ∧
  (O.chk k msg' ecc' = true → msg' = m0)

section Repairs
variable {p : Params} {c : Codec (Elt p)} {core : Core (Elt p)}

/-- check true within detection range ⇒ the received message is the original -/
theorem msg_eq_of_check (hF : CodecFacts c) {M0 M' E' : List (Elt p)} {k : Nat}
    (hm : M0.length ≤ effK c k) (hk : effK c k ≤ c.n)
    (hl : M'.length = M0.length) (he : E'.length = c.n - effK c k)
    (hd : hdist (M' ++ E') (M0 ++ encode c M0 k) ≤ c.n - effK c k)
    (h : check c M' E' k = true) : M' = M0 := by
  by_cases h0 : hdist (M' ++ E') (M0 ++ encode c M0 k) = 0
  · exact (List.append_inj (eq_of_hdist_eq_zero _ _
      (by simp only [List.length_append, hl, he, hF.encLen M0 k hm hk]) h0) hl).1
  · rw [hF.detects M0 k hm hk M' E' hl he (by omega) hd] at h
    cases h

/-- on field elements; `k ≥ 1`, so the facts are used at `effK c k = k` -/
theorem repairs_of_decode (hF : CodecFacts c) (H : List Nat → List Nat) (en : Bool) (sym : Nat) (oe : Bool)
    {k : Nat} {M0 M' E' : List (Elt p)} (kpos : 1 ≤ k) (kle : k ≤ c.n)
    (hl : M'.length = M0.length) (hmk : M0.length ≤ k) (he : E'.length = c.n - k)
    (hdecode : decode core c M' E' k en (Elt.ofNat p sym) oe = .ok (M0, encode c M0 k))
    (hd : hdist (M' ++ E') (M0 ++ encode c M0 k) ≤ c.n - k) :
    Repairs (opsOfFacade c core H en sym oe) k (ofElts M0) (ofElts M') (ofElts E') := by
  have acc := hF.accepts M0 k
  have det := msg_eq_of_check hF (M0 := M0) (M' := M') (E' := E') (k := k)
  rw [effK_pos c k kpos] at acc det
  rw [Repairs, enc_ofElts, chk_ofElts, chk_ofElts]
  exact ⟨dec_of_decode c core H en sym oe hdecode, acc hmk kle,
    fun h => congrArg ofElts (det hmk kle hl he hd h)⟩

/-- default mode: at most `⌊(n−k)/2⌋` wrong symbols in message + parity -/
theorem repairs_errors (hF : CodecFacts c) (hD : DecFacts c core) (H : List Nat → List Nat)
    {k : Nat} {m0 msg' ecc' : List Nat} (hb0 : IsBytes m0) (hbm : IsBytes msg') (hbe : IsBytes ecc')
    (kpos : 1 ≤ k) (kle : k ≤ c.n) (hl : msg'.length = m0.length) (hmk : m0.length ≤ k)
    (he : ecc'.length = c.n - k)
    (hcap : 2 * hdist (msg' ++ ecc') (m0 ++ (opsOfFacade c core H false 0 false).enc k m0) ≤ c.n - k) :
    Repairs (opsOfFacade c core H false 0 false) k m0 msg' ecc' := by
  obtain ⟨M0, rfl⟩ := exists_ofElts (p := p) hb0
  obtain ⟨M', rfl⟩ := exists_ofElts (p := p) hbm
  obtain ⟨E', rfl⟩ := exists_ofElts (p := p) hbe
  simp only [length_ofElts] at hl hmk he
  rw [enc_ofElts, ← ofElts_append, ← ofElts_append, hdist_ofElts] at hcap
  have dec := hD.errors M0 k
  rw [effK_pos c k kpos] at dec
  exact repairs_of_decode hF H false 0 false kpos kle hl hmk he
    (dec hmk kle M' E' hl he hcap) (by omega)

/-- `--enable_erasures`: `2·errors + erasures ≤ n−k` -/
theorem repairs_erasures (hF : CodecFacts c) (hD : DecFacts c core) (H : List Nat → List Nat)
    {sym : Nat} (hsym : sym < 256)
    {k : Nat} {m0 msg' ecc' : List Nat} (hb0 : IsBytes m0) (hbm : IsBytes msg') (hbe : IsBytes ecc')
    (kpos : 1 ≤ k) (kle : k ≤ c.n) (hl : msg'.length = m0.length) (hmk : m0.length ≤ k)
    (he : ecc'.length = c.n - k)
    (hcap : 2 * errorsOutside (msg' ++ ecc') (m0 ++ (opsOfFacade c core H true sym false).enc k m0)
          (erasedPos (msg' ++ ecc') sym) + (erasedPos (msg' ++ ecc') sym).length ≤ c.n - k) :
    Repairs (opsOfFacade c core H true sym false) k m0 msg' ecc' := by
  obtain ⟨M0, rfl⟩ := exists_ofElts (p := p) hb0
  obtain ⟨M', rfl⟩ := exists_ofElts (p := p) hbm
  obtain ⟨E', rfl⟩ := exists_ofElts (p := p) hbe
  simp only [length_ofElts] at hl hmk he
  rw [enc_ofElts, ← ofElts_append, ← ofElts_append, errorsOutside_ofElts, erasedPos_ofElts _ hsym] at hcap
  have dec := hD.erasures M0 k
  have len := hF.encLen M0 k
  rw [effK_pos c k kpos] at dec len
  refine repairs_of_decode hF H true sym false kpos kle hl hmk he
    (dec hmk kle M' E' hl he _ hcap) ?_
  -- the distance is at most the erasures plus the errors outside them
  have := hdist_le_add_errorsOutside (M' ++ E') (M' ++ E') (M0 ++ encode c M0 k)
    ((List.range (M' ++ E').length).filter (fun i => (M' ++ E')[i]? = some (Elt.ofNat p sym))) rfl
    (by simp only [List.length_append, hl, he, len hmk kle])
  rw [errorsOutside_self] at this
  omega

end Repairs

/-! ### from `Repairs` to `BlockOK` / `IntraBlockOK` -/

theorem blockOK_of_repairs {O : Ops} {fast : Bool} {mbs : Nat} {orig : List Nat} {b : AsmBlock}
    (h : Repairs O b.k (origMsg orig b) b.msg b.ecc) (hcomp : mbs - b.k ≤ b.ecc.length)
    (hhash : fast = true → O.H b.msg = b.hash → b.msg = origMsg orig b) :
    BlockOK O fast mbs orig b := by
  unfold BlockOK
  cases hnr : needsRepair O fast b with
  | false =>
    refine Or.inl ⟨?_, rfl⟩
    simp only [needsRepair, Bool.or_eq_false_iff, decide_eq_false_iff_not, ne_eq, not_not,
      Bool.and_eq_false_iff, Bool.not_eq_eq_eq_not, Bool.not_false] at hnr
    exact hnr.2.elim (hhash · hnr.1) h.2.2
  | true => exact Or.inr ⟨rfl, _, h.1, Or.inr ⟨h.2.1, decide_eq_true hcomp⟩⟩

theorem intraBlockOK_of_repairs {O : Ops} {orig : List Nat} {b : AsmBlock}
    (h : Repairs O b.k (origMsg orig b) b.msg b.ecc) : IntraBlockOK O b.k orig b := by
  unfold IntraBlockOK
  cases hc : O.chk b.k b.msg b.ecc with
  | true => exact Or.inl ⟨h.2.2 hc, rfl⟩
  | false => exact Or.inr ⟨rfl, _, h.1, h.2.1⟩

/-! ### the original message of a block -/

theorem bytes_origMsg (orig : List Nat) (off len : Nat) (h : IsBytes orig) :
    IsBytes ((orig.drop off).take len) :=
  fun x hx => h x (List.mem_of_mem_drop (List.mem_of_mem_take hx))

theorem length_origMsg (orig : List Nat) (off len : Nat) (h : off + len ≤ orig.length) :
    ((orig.drop off).take len).length = len := by
  rw [List.length_take, List.length_drop]; omega

/-! ### the per-block premises, for either field -/
namespace ByteCodec
variable {p : Params} {c : Codec (Elt p)} (hc : ByteCodec c) {core : Core (Elt p)}
  {orig : List Nat} {b : AsmBlock}
include hc

theorem repairs_block (hW : CoreW c core) (H : List Nat → List Nat) (hg : BlockGeom c.n orig b)
    (hcap : 2 * hdist (b.msg ++ b.ecc)
      (origMsg orig b ++ (opsOfFacade c core H false 0 false).enc b.k (origMsg orig b)) ≤ c.n - b.k) :
    Repairs (opsOfFacade c core H false 0 false) b.k (origMsg orig b) b.msg b.ecc :=
  have hl := length_origMsg orig b.off b.msg.length hg.inside
  BridgeProofs.repairs_errors hc.facts (hc.dec core hW) H (bytes_origMsg orig _ _ hg.bytesOrig)
    hg.bytesMsg hg.bytesEcc hg.kpos hg.kle hl.symm (hl ▸ hg.msgle) hg.eccLen hcap

theorem block_premise (hW : CoreW c core) (H : List Nat → List Nat) (fast : Bool)
    (hg : BlockGeom c.n orig b)
    (hcap : 2 * hdist (b.msg ++ b.ecc)
      (origMsg orig b ++ (opsOfFacade c core H false 0 false).enc b.k (origMsg orig b)) ≤ c.n - b.k)
    (hhash : fast = true → H b.msg = b.hash → b.msg = origMsg orig b) :
    BlockOK (opsOfFacade c core H false 0 false) fast c.n orig b :=
  blockOK_of_repairs (hc.repairs_block hW H hg hcap) (Nat.le_of_eq hg.eccLen.symm) hhash

theorem block_premise_erasures (hW : CoreW c core) (H : List Nat → List Nat) (fast : Bool)
    {sym : Nat} (hsym : sym < 256) (hg : BlockGeom c.n orig b)
    (hcap : 2 * errorsOutside (b.msg ++ b.ecc)
          (origMsg orig b ++ (opsOfFacade c core H true sym false).enc b.k (origMsg orig b))
          (erasedPos (b.msg ++ b.ecc) sym)
        + (erasedPos (b.msg ++ b.ecc) sym).length ≤ c.n - b.k)
    (hhash : fast = true → H b.msg = b.hash → b.msg = origMsg orig b) :
    BlockOK (opsOfFacade c core H true sym false) fast c.n orig b :=
  have hl := length_origMsg orig b.off b.msg.length hg.inside
  blockOK_of_repairs (BridgeProofs.repairs_erasures hc.facts (hc.dec core hW) H hsym
      (bytes_origMsg orig _ _ hg.bytesOrig) hg.bytesMsg hg.bytesEcc hg.kpos hg.kle hl.symm
      (hl ▸ hg.msgle) hg.eccLen hcap)
    (Nat.le_of_eq hg.eccLen.symm) hhash

theorem intra_block_premise (hW : CoreW c core) (H : List Nat → List Nat) (hg : BlockGeom c.n orig b)
    (hcap : 2 * hdist (b.msg ++ b.ecc)
      (origMsg orig b ++ (opsOfFacade c core H false 0 false).enc b.k (origMsg orig b)) ≤ c.n - b.k) :
    IntraBlockOK (opsOfFacade c core H false 0 false) b.k orig b :=
  intraBlockOK_of_repairs (hc.repairs_block hW H hg hcap)

/-- lengths and acceptance of a parity just produced, for every per-call `k ≥ 1` and every message -/
theorem clean_ops (core : Core (Elt p)) (H : List Nat → List Nat) (en : Bool) (sym : Nat) (oe : Bool)
    (k : Nat) (m : List Nat) (hk : 1 ≤ k) :
    ((opsOfFacade c core H en sym oe).enc k m).length = c.n - k ∧
    (opsOfFacade c core H en sym oe).chk k m ((opsOfFacade c core H en sym oe).enc k m) = true := by
  refine ⟨?_, ?_⟩
  · rw [opsOfFacade, length_ofElts, hc.encLen, effK_pos c k hk]
  · simp only [opsOfFacade, toElts_ofElts, hc.accepts]

end ByteCodec

/-! ### the same facts in the form the chain and soundness files still call them -/

theorem codecFactsA (algo n k0 : Nat) (ha : algo = 1 ∨ algo = 2 ∨ algo = 3) (hn : n ≤ 255) :
    CodecFacts (codecA algo n k0) := (byteCodecA algo n k0 ha hn).facts

theorem codecFactsB (n k0 : Nat) (hn : n ≤ 255) : CodecFacts (codecB n k0) := (byteCodecB n k0 hn).facts

theorem decFactsA (algo n k0 : Nat) (ha : algo = 1 ∨ algo = 2 ∨ algo = 3) (hn : n ≤ 255)
    (core : Core (Elt pA)) (hW : CoreW (codecA algo n k0) core) :
    DecFacts (codecA algo n k0) core := (byteCodecA algo n k0 ha hn).dec core hW

theorem decFactsB (n k0 : Nat) (hn : n ≤ 255)
    (core : Core (Elt pB)) (hW : CoreW (codecB n k0) core) :
    DecFacts (codecB n k0) core := (byteCodecB n k0 hn).dec core hW

section Compat
variable {p : Params} (c : Codec (Elt p)) (core : Core (Elt p))

theorem toElts_append (a b : List Nat) : toElts p (a ++ b) = toElts p a ++ toElts p b := List.map_append

theorem errorsOutside_toElts (w cw : List Nat) (hw : IsBytes w) (hcw : IsBytes cw)
    (l : List Nat) : errorsOutside (toElts p w) (toElts p cw) l = errorsOutside w cw l := by
  obtain ⟨W, rfl⟩ := exists_ofElts (p := p) hw
  obtain ⟨C, rfl⟩ := exists_ofElts (p := p) hcw
  rw [toElts_ofElts, toElts_ofElts, errorsOutside_ofElts]

theorem erased_toElts (w : List Nat) (hw : IsBytes w) (sym : Nat) (hsym : sym < 256) :
    (List.range (toElts p w).length).filter (fun i => (toElts p w)[i]? = some (Elt.ofNat p sym)) =
    (List.range w.length).filter (fun i => w[i]? = some sym) := by
  obtain ⟨W, rfl⟩ := exists_ofElts (p := p) hw
  rw [toElts_ofElts]
  exact (erasedPos_ofElts W hsym).symm

theorem enc_irrel (H : List Nat → List Nat) (en : Bool) (sym : Nat) (oe : Bool) (k : Nat) (m : List Nat) :
    (opsOfFacade c core H en sym oe).enc k m = ofElts (encode c (toElts p m) k) := rfl

theorem hdist_facade (k : Nat) (m0 msg' ecc' : List Nat)
    (hb0 : IsBytes m0) (hbm : IsBytes msg') (hbe : IsBytes ecc') :
    hdist (toElts p msg' ++ toElts p ecc') (toElts p m0 ++ encode c (toElts p m0) k) =
    hdist (msg' ++ ecc') (m0 ++ ofElts (encode c (toElts p m0) k)) := by
  obtain ⟨M0, rfl⟩ := exists_ofElts (p := p) hb0
  obtain ⟨M', rfl⟩ := exists_ofElts (p := p) hbm
  obtain ⟨E', rfl⟩ := exists_ofElts (p := p) hbe
  rw [toElts_ofElts, toElts_ofElts, toElts_ofElts, ← ofElts_append, ← ofElts_append, hdist_ofElts]

theorem facade_errors (hF : CodecFacts c) (hD : DecFacts c core) (H : List Nat → List Nat)
    (k : Nat) (m0 msg' ecc' : List Nat)
    (hb0 : IsBytes m0) (hbm : IsBytes msg') (hbe : IsBytes ecc')
    (kpos : 1 ≤ k) (kle : k ≤ c.n) (hl : msg'.length = m0.length) (hmk : m0.length ≤ k)
    (he : ecc'.length = c.n - k)
    (hcap : 2 * hdist (msg' ++ ecc') (m0 ++ (opsOfFacade c core H false 0 false).enc k m0) ≤ c.n - k) :
    Repairs (opsOfFacade c core H false 0 false) k m0 msg' ecc' :=
  repairs_errors hF hD H hb0 hbm hbe kpos kle hl hmk he hcap

theorem blockOK_errors (hF : CodecFacts c) (hD : DecFacts c core) (H : List Nat → List Nat)
    (fast : Bool) (orig : List Nat) (b : AsmBlock)
    (hbo : IsBytes orig) (hbm : IsBytes b.msg) (hbe : IsBytes b.ecc)
    (kpos : 1 ≤ b.k) (kle : b.k ≤ c.n) (msgle : b.msg.length ≤ b.k)
    (inside : b.off + b.msg.length ≤ orig.length) (eccLen : b.ecc.length = c.n - b.k)
    (hcap : 2 * hdist (b.msg ++ b.ecc)
        ((orig.drop b.off).take b.msg.length ++
          (opsOfFacade c core H false 0 false).enc b.k ((orig.drop b.off).take b.msg.length)) ≤ c.n - b.k)
    (hhash : fast = true → H b.msg = b.hash → b.msg = (orig.drop b.off).take b.msg.length) :
    BlockOK (opsOfFacade c core H false 0 false) fast c.n orig b :=
  have hl := length_origMsg orig b.off b.msg.length inside
  blockOK_of_repairs (repairs_errors hF hD H (bytes_origMsg orig _ _ hbo) hbm hbe kpos kle hl.symm
    (hl ▸ msgle) eccLen hcap) (Nat.le_of_eq eccLen.symm) hhash

theorem blockOK_erasures (hF : CodecFacts c) (hD : DecFacts c core) (H : List Nat → List Nat)
    (sym : Nat) (hsym : sym < 256)
    (fast : Bool) (orig : List Nat) (b : AsmBlock)
    (hbo : IsBytes orig) (hbm : IsBytes b.msg) (hbe : IsBytes b.ecc)
    (kpos : 1 ≤ b.k) (kle : b.k ≤ c.n) (msgle : b.msg.length ≤ b.k)
    (inside : b.off + b.msg.length ≤ orig.length) (eccLen : b.ecc.length = c.n - b.k)
    (hcap : 2 * errorsOutside (b.msg ++ b.ecc)
          ((orig.drop b.off).take b.msg.length ++
            (opsOfFacade c core H true sym false).enc b.k ((orig.drop b.off).take b.msg.length))
          ((List.range (b.msg ++ b.ecc).length).filter (fun i => (b.msg ++ b.ecc)[i]? = some sym))
        + ((List.range (b.msg ++ b.ecc).length).filter (fun i => (b.msg ++ b.ecc)[i]? = some sym)).length
        ≤ c.n - b.k)
    (hhash : fast = true → H b.msg = b.hash → b.msg = (orig.drop b.off).take b.msg.length) :
    BlockOK (opsOfFacade c core H true sym false) fast c.n orig b :=
  have hl := length_origMsg orig b.off b.msg.length inside
  blockOK_of_repairs (repairs_erasures hF hD H hsym (bytes_origMsg orig _ _ hbo) hbm hbe kpos kle hl.symm
    (hl ▸ msgle) eccLen hcap) (Nat.le_of_eq eccLen.symm) hhash

theorem clean_ops (hF : CodecFacts c) (H : List Nat → List Nat) (en : Bool) (sym : Nat) (oe : Bool)
    (k : Nat) (m : List Nat) (h1 : 1 ≤ m.length) (h2 : m.length ≤ k) (h3 : k ≤ c.n) :
    ((opsOfFacade c core H en sym oe).enc k m).length = c.n - k ∧
    (opsOfFacade c core H en sym oe).chk k m ((opsOfFacade c core H en sym oe).enc k m) = true := by
  have hk' := effK_pos c k (by omega)
  have hm : (toElts p m).length ≤ effK c k := by rw [hk', length_toElts]; exact h2
  have hkn : effK c k ≤ c.n := by rw [hk']; exact h3
  constructor
  · rw [enc_irrel, length_ofElts, hF.encLen _ k hm hkn, hk']
  · show check c (toElts p m) (toElts p (ofElts (encode c (toElts p m) k))) k = true
    rw [toElts_ofElts]
    exact hF.accepts _ k hm hkn

end Compat

end Pff.BridgeProofs
