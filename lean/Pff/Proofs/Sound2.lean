import Pff.Props.Bridge
import Pff.Proofs.Bridge
import Pff.Proofs.Ecc
import Pff.Proofs.EccB
/-! Soundness of committed repairs without contract W, block level (helpers for
`Pff/Props/Sound.lean`; the file level is `wholeOf_sound` / `headerOf_sound` in `Proofs/EccB.lean`). -/
namespace Pff.SoundProofs

open Pff.GF Pff.Facade Pff.Ecc Pff.Layout Pff.RSSpec Pff.Entry Pff.Bridge Pff.RSProofs Pff.BridgeProofs

/-! ### what is needed of the facade (model's own instances), discharged at the two fields -/

structure SoundFacts {p : Params} (c : Codec (Elt p)) (core : Core (Elt p)) : Prop where
  sound : ∀ (msg : List (Elt p)) (k : Nat), msg.length ≤ effK c k → effK c k ≤ c.n →
    ∀ (msg' ecc' : List (Elt p)), msg'.length = msg.length → ecc'.length = c.n - effK c k →
    ∀ (en : Bool) (ec : Elt p) (oe : Bool),
    (if en || oe then
        2 * errorsOutside (msg' ++ ecc') (msg ++ encode c msg k) (detectedErasures msg' ecc' en oe ec)
          + (detectedErasures msg' ecc' en oe ec).length ≤ c.n - effK c k
      else 2 * hdist (msg' ++ ecc') (msg ++ encode c msg k) ≤ c.n - effK c k) →
    ∀ (m'' e'' : List (Elt p)), decode core c msg' ecc' k en ec oe = .ok (m'', e'') →
    m''.length = msg.length → e''.length = c.n - effK c k → check c m'' e'' k = true →
    m'' = msg ∧ e'' = encode c msg k

theorem soundFactsA (algo n k0 : Nat) (ha : algo = 1 ∨ algo = 2 ∨ algo = 3) (hn : n ≤ 255)
    (core : Core (Elt pA)) : SoundFacts (codecA algo n k0) core := by
  have hc := C11_codecA_good algo n k0 ha hn
  exact ⟨fun msg k hm hk msg' ecc' hl he en ec oe hcap m'' e'' hdec hml hel hchk =>
    C02_decode_sound (codecA algo n k0) hc core msg k hm hk msg' ecc' hl he en ec oe hcap m'' e''
      hdec hml hel hchk⟩

theorem soundFactsB (n k0 : Nat) (hn : n ≤ 255) (core : Core (Elt pB)) :
    SoundFacts (codecB n k0) core := by
  have hc := C11_codecB_good n k0 hn
  exact ⟨fun msg k hm hk msg' ecc' hl he en ec oe hcap m'' e'' hdec hml hel hchk =>
    C02_decode_sound (codecB n k0) hc core msg k hm hk msg' ecc' hl he en ec oe hcap m'' e''
      hdec hml hel hchk⟩

/-! ### one block -/

section Block
variable {p : Params} (c : Codec (Elt p)) (core : Core (Elt p))

theorem blockSound_generic (hS : SoundFacts c core) (H : List Nat → List Nat) (fast en oe : Bool)
    (sym : Nat) (hsym : sym < 256) (orig : List Nat) (b : AsmBlock) (hg : BlockGeom c.n orig b)
    (hcap : if en || oe then
        2 * errorsOutside (b.msg ++ b.ecc)
            (origMsg orig b ++ (opsOfFacade c core H en sym oe).enc b.k (origMsg orig b))
            (erasedPos (b.msg ++ b.ecc) sym)
          + (erasedPos (b.msg ++ b.ecc) sym).length ≤ c.n - b.k
      else 2 * hdist (b.msg ++ b.ecc)
            (origMsg orig b ++ (opsOfFacade c core H en sym oe).enc b.k (origMsg orig b)) ≤ c.n - b.k)
    (hlens : ∀ m' e', (opsOfFacade c core H en sym oe).dec b.k b.msg b.ecc = some (m', e') →
      m'.length = b.msg.length ∧ e'.length = c.n - b.k)
    (hcoll : ∀ w, H w = b.hash → w = origMsg orig b) :
    (processBlock (opsOfFacade c core H en sym oe) fast c.n b).2 ≠ BlockStatus.failed →
    (processBlock (opsOfFacade c core H en sym oe) fast c.n b).1 = origMsg orig b := by
  intro hne
  rcases processBlock_spec (opsOfFacade c core H en sym oe) fast c.n b with
    ⟨hn, h⟩ | ⟨_, h⟩ | ⟨_, m', e', hd, hc, h⟩
  · -- intact: the hash matches
    rw [h]
    apply hcoll
    unfold needsRepair at hn
    simp only [Bool.or_eq_false_iff, decide_eq_false_iff_not, ne_eq, not_not] at hn
    exact hn.1
  · exact absurd (by rw [h]) hne
  · rw [h]
    rcases hc with hc | ⟨hc, _⟩
    · exact hcoll m' hc
    · -- committed on the ecc check: facade-level soundness
      obtain ⟨hml, hel⟩ := hlens m' e' hd
      have hk' := effK_pos c b.k hg.kpos
      have hlen0 : (origMsg orig b).length = b.msg.length :=
        length_origMsg orig b.off b.msg.length hg.inside
      have hb0 : ∀ x ∈ origMsg orig b, x < 256 := bytes_origMsg orig _ _ hg.bytesOrig
      have hbm : ∀ x ∈ b.msg, x < 256 := hg.bytesMsg
      have hbe : ∀ x ∈ b.ecc, x < 256 := hg.bytesEcc
      have hd' : (match decode core c (toElts p b.msg) (toElts p b.ecc) b.k en (Elt.ofNat p sym) oe with
          | .ok (a, b) => some (ofElts a, ofElts b)
          | .error _ => none) = some (m', e') := hd
      cases hdec : decode core c (toElts p b.msg) (toElts p b.ecc) b.k en (Elt.ofNat p sym) oe with
      | error err => rw [hdec] at hd'; cases hd'
      | ok r =>
        obtain ⟨a, a'⟩ := r
        rw [hdec] at hd'
        simp only [Option.some.injEq, Prod.mk.injEq] at hd'
        obtain ⟨rfl, rfl⟩ := hd'
        have hchk : check c a a' b.k = true := by
          have : check c (toElts p (ofElts a)) (toElts p (ofElts a')) b.k = true := hc
          rwa [toElts_ofElts, toElts_ofElts] at this
        rw [length_ofElts] at hml hel
        have hbw : ∀ x ∈ b.msg ++ b.ecc, x < 256 := by
          intro x hx
          rcases List.mem_append.mp hx with h | h
          · exact hbm x h
          · exact hbe x h
        have hbc : ∀ x ∈ origMsg orig b ++ ofElts (encode c (toElts p (origMsg orig b)) b.k),
            x < 256 := by
          intro x hx
          rcases List.mem_append.mp hx with h | h
          · exact hb0 x h
          · exact bytes_ofElts _ x h
        have hres := hS.sound (toElts p (origMsg orig b)) b.k
          (by rw [hk', length_toElts, hlen0]; exact hg.msgle) (by rw [hk']; exact hg.kle)
          (toElts p b.msg) (toElts p b.ecc) (by rw [length_toElts, length_toElts, hlen0])
          (by rw [length_toElts, hk', hg.eccLen]) en (Elt.ofNat p sym) oe
          (by
            cases hb : (en || oe)
            · rw [hb] at hcap
              simp only [Bool.false_eq_true, ↓reduceIte] at hcap ⊢
              rw [hdist_facade c b.k (origMsg orig b) b.msg b.ecc hb0 hbm hbe, hk']
              exact hcap
            · rw [hb] at hcap
              simp only [↓reduceIte] at hcap ⊢
              unfold detectedErasures
              rw [hb]
              simp only [↓reduceIte]
              have e1 : toElts p b.msg ++ toElts p b.ecc = toElts p (b.msg ++ b.ecc) :=
                (toElts_append _ _).symm
              have e2 : toElts p (origMsg orig b) ++ encode c (toElts p (origMsg orig b)) b.k =
                  toElts p (origMsg orig b ++ ofElts (encode c (toElts p (origMsg orig b)) b.k)) := by
                rw [toElts_append, toElts_ofElts]
              rw [e1, e2, erased_toElts (b.msg ++ b.ecc) hbw sym hsym,
                errorsOutside_toElts (b.msg ++ b.ecc) _ hbw hbc, hk']
              exact hcap)
          a a' hdec (by rw [hml, length_toElts, hlen0]) (by rw [hel, hk']) hchk
        rw [hres.1, ofElts_toElts _ hb0]

end Block

end Pff.SoundProofs
