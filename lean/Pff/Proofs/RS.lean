import Pff.Props.RSSpec
import Pff.Proofs.GFTables
import Pff.Proofs.GF
import Pff.Proofs.RSCore
import Pff.Proofs.RSDist
import Pff.Proofs.RSFacade
import Pff.Proofs.RSDecode
/-! Helper lemmas for the Reed–Solomon layer (C02, C11, C12) — aggregator.

* `GFTables` : kernel-checked finite facts about the packed GF(2^8) tables
* `GF`       : field laws of GF(2^8) from the table facts; the `Field` instance; the generator
* `RSCore`   : Horner evaluation, generator polynomial roots, the three encoders compute remainders
* `RSDist`   : Hamming distance and the position counts of the specification, minimum distance (Vandermonde)
* `RSFacade` : `ECCMan.encode` / `check` (padding, per-call k): accepts, minimum distance and uniqueness of
               the systematic parity at the level of `check`
* `RSDecode` : `ECCMan.decode` under contract W: exact decoding
-/
