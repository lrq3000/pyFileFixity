import Pff.Model.Ecc
import Pff.Proofs.Ecc
/-! Files whose blocks all verify (C03: generated tracks) or are all repaired to the original
(C01), and files reported completely repaired (soundness). -/
namespace Pff.Ecc.B
open Pff.Ecc

open Pff.Layout

/-! ## exit status -/

theorem exitStatus_of_none_corrupted (rs : List FileResult)
    (h : ∀ r ∈ rs, r.corrupted = false) : exitStatus rs = 0 := by
  have h0 : rs.filter (·.corrupted) = [] :=
    List.filter_eq_nil_iff.mpr (fun r hr => by rw [h r hr]; exact Bool.false_ne_true)
  unfold exitStatus
  exact if_pos (Or.inl (by rw [h0]; rfl))

theorem exitStatus_of_iff (rs : List FileResult)
    (h : ∀ r ∈ rs, r.corrupted = r.complete) : exitStatus rs = 0 := by
  unfold exitStatus
  exact if_pos (Or.inr (by rw [List.filter_congr h]))

/-- the loop of `runLoop` started from state `s` at block number `n` -/
def loopFrom (O : Ops) (fast : Bool) (mbs thr : Nat) (s : LoopSt) (n : Nat) (blocks : List AsmBlock) :
    LoopSt :=
  (blocks.zipIdx n).foldl (fun s bi => loopStep O fast mbs thr s bi.2 bi.1) s

theorem loopFrom_nil (O : Ops) (fast : Bool) (mbs thr : Nat) (s : LoopSt) (n : Nat) :
    loopFrom O fast mbs thr s n [] = s := rfl

/-! ## blocks that need no repair (C03) -/

/-- a block carrying the hash and the parity of its own message needs no repair -/
theorem needsRepair_own (O : Ops) (fast : Bool)
    (hacc : fast = false → ∀ k m, 1 ≤ m.length → m.length ≤ k → O.chk k m (O.enc k m) = true)
    (off k : Nat) (m : Bytes) (h1 : 1 ≤ m.length) (h2 : m.length ≤ k) :
    needsRepair O fast ⟨off, m, k, O.H m, O.enc k m⟩ = false := by
  cases fast with
  | true => simp only [needsRepair, ne_eq, not_true_eq_false, decide_false, Bool.not_true,
      Bool.false_and, Bool.or_self]
  | false =>
    simp only [needsRepair, ne_eq, not_true_eq_false, decide_false, Bool.not_false,
      Bool.true_and, Bool.false_or, hacc rfl k m h1 h2, Bool.not_true]

theorem wholeOf_clean (O : Ops) (fast : Bool) (thr mbs : Nat) (content : Bytes)
    (blocks : List AsmBlock) (h : ∀ b ∈ blocks, needsRepair O fast b = false) :
    wholeOf O fast thr mbs content blocks =
      { output := none, corrupted := false, complete := false, partialRep := false } :=
  if_neg (by rw [List.any_eq_false.mpr (fun b hb => by rw [h b hb]; exact Bool.false_ne_true)]
             exact Bool.false_ne_true)

theorem headerOf_clean (O : Ops) (fast : Bool) (thr mbs : Nat) (content : Bytes)
    (blocks : List AsmBlock) (h : ∀ b ∈ blocks, needsRepair O fast b = false) :
    headerOf O fast thr mbs content blocks =
      { output := none, corrupted := false, complete := false, partialRep := false } :=
  if_neg (by rw [runLoop_anyRepair,
               List.any_eq_false.mpr (fun b hb => by rw [h b hb]; exact Bool.false_ne_true)]
             exact Bool.false_ne_true)

/-- the blocks read back from a generated track need no repair -/
theorem gen_clean (O : Ops) (fast : Bool) (kOf : Nat → Nat) (hk : ∀ x, 1 ≤ kOf x)
    (hacc : fast = false → ∀ k m, 1 ≤ m.length → m.length ≤ k → O.chk k m (O.enc k m) = true)
    (content : Bytes) (size fuel c : Nat) (hs : size ≤ content.length) :
    ∀ b ∈ (layoutGen kOf size fuel c).map (asmOf O.H O.enc content), needsRepair O fast b = false := by
  intro b hb
  obtain ⟨lb, hlb, rfl⟩ := List.mem_map.mp hb
  obtain ⟨_, h1, h2⟩ := layoutGen_slice kOf hk content size fuel c hs lb hlb
  exact needsRepair_own O fast hacc _ _ _ h1 h2

theorem whole_gen_clean (O : Ops) (fast : Bool) (hashLen mbs : Nat) (kOf : Nat → Nat)
    (hk : ∀ x, 1 ≤ kOf x) (hpos : ∀ x, 1 ≤ hashLen + (mbs - kOf x))
    (hH : ∀ m, (O.H m).length = hashLen)
    (henc : ∀ k m, 1 ≤ m.length → m.length ≤ k → (O.enc k m).length = mbs - k)
    (hacc : fast = false → ∀ k m, 1 ≤ m.length → m.length ≤ k → O.chk k m (O.enc k m) = true)
    (content : Bytes) :
    ∀ b ∈ assemble kOf hashLen mbs content (genTrack O.H O.enc kOf content) (content.length + 1) 0 0,
      needsRepair O fast b = false := by
  rw [C10_agree_whole kOf hk hashLen mbs O.H O.enc hH henc hpos content]
  exact gen_clean O fast kOf hk hacc content _ _ _ (Nat.le_refl _)

/-- `assembleHeader` depends on `readLen` only through `content.take readLen` -/
theorem assembleHeader_congr_take (k hashLen mbs r r' : Nat) (content track : Bytes)
    (h : content.take r = content.take r') :
    ∀ fuel i j, assembleHeader k hashLen mbs r content track fuel i j =
      assembleHeader k hashLen mbs r' content track fuel i j := by
  intro fuel
  induction fuel with
  | zero => intro i j; rfl
  | succ fuel ih =>
    intro i j
    simp only [assembleHeader, h, ih]

theorem header_gen_clean (O : Ops) (fast : Bool) (k hashLen mbs headerSize : Nat)
    (hk : 1 ≤ k) (hpos : 1 ≤ hashLen + (mbs - k))
    (hH : ∀ m, (O.H m).length = hashLen)
    (henc : ∀ k m, 1 ≤ m.length → m.length ≤ k → (O.enc k m).length = mbs - k)
    (hacc : fast = false → ∀ k m, 1 ≤ m.length → m.length ≤ k → O.chk k m (O.enc k m) = true)
    (content : Bytes) :
    ∀ b ∈ assembleHeader k hashLen mbs headerSize content
        (genTrackHeader O.H O.enc k headerSize content) (content.length + 1) 0 0,
      needsRepair O fast b = false := by
  rw [C10_agree_header k hashLen mbs headerSize hk O.H O.enc hH (henc k) hpos content,
    layoutHeader_eq_layoutGen]
  exact gen_clean O fast _ (fun _ => hk) hacc content _ _ _ (Nat.min_le_right _ _)

/-- the number of bytes the header tool reads gives the same header as `headerSize` whenever the
recorded size is the size of the file -/
theorem take_readLen (content : Bytes) (headerSize : Nat) :
    content.take (if 0 < content.length ∧ content.length < headerSize then content.length
      else headerSize) = content.take headerSize := by
  split
  · next h =>
    rw [List.take_length, List.take_of_length_le (by omega)]
  · rfl

/-! ## files reported completely repaired -/

/-- If every block that is not reported failed is written as the original has it, a file without
partial failure is written as the original has it. -/
theorem written_sound (O : Ops) (fast : Bool) (mbs thr : Nat) (orig : Bytes) (l : List AsmBlock)
    (hsound : ∀ b ∈ l, (processBlock O fast mbs b).2 ≠ BlockStatus.failed →
      (processBlock O fast mbs b).1 = piece orig b)
    (h : (runLoop O fast mbs thr l).partialFail = false) :
    (runLoop O fast mbs thr l).written = l.map (piece orig) := by
  obtain ⟨hw, _, hnf⟩ := runLoop_no_partialFail O fast mbs thr l h
  rw [hw]
  exact List.map_congr_left (fun b hb => hsound b hb (hnf b hb))

/-- Whole-file tool on any blocks that lie one after the other (`hfix`) and cover the damaged
file: an output reported as a complete repair is the original. -/
theorem wholeOf_sound (O : Ops) (fast : Bool) (thr mbs : Nat) (orig damaged : Bytes)
    (blocks : List AsmBlock) (hlen : damaged.length = orig.length)
    (hcover : (blocks.map (·.msg)).flatten = damaged)
    (hfix : (blocks.map (piece orig)).flatten =
      (orig.drop 0).take (blocks.map (·.msg)).flatten.length)
    (hsound : ∀ b ∈ blocks, (processBlock O fast mbs b).2 ≠ BlockStatus.failed →
      (processBlock O fast mbs b).1 = piece orig b)
    (out : Bytes) (hout : (wholeOf O fast thr mbs damaged blocks).output = some out)
    (hcomplete : (wholeOf O fast thr mbs damaged blocks).complete = true) : out = orig := by
  obtain ⟨ho, _, hc⟩ := wholeOf_output O fast thr mbs damaged blocks out hout
  rw [hc, Bool.not_eq_true'] at hcomplete
  rw [hcover, hlen, List.drop_zero, List.take_length] at hfix
  rw [ho, written_sound O fast mbs thr orig blocks hsound hcomplete, hfix, ← hlen, List.drop_length,
    List.append_nil]

theorem take_take_length (orig damaged : Bytes) (readLen : Nat) (hlen : damaged.length = orig.length) :
    orig.take (damaged.take readLen).length = orig.take readLen := by
  rw [List.take_eq_take_iff, List.length_take]; omega

theorem drop_take_length (damaged : Bytes) (readLen : Nat) :
    damaged.drop (damaged.take readLen).length = damaged.drop readLen := by
  rw [List.length_take]
  by_cases h : readLen ≤ damaged.length
  · rw [Nat.min_eq_left h]
  · rw [Nat.min_eq_right (by omega), List.drop_length, List.drop_eq_nil_of_le (by omega)]

/-- Header tool: likewise for the bytes read as header; the rest of the file is copied. -/
theorem headerOf_sound (O : Ops) (fast : Bool) (thr mbs readLen : Nat) (orig damaged : Bytes)
    (blocks : List AsmBlock) (hlen : damaged.length = orig.length)
    (hcover : (blocks.map (·.msg)).flatten = damaged.take readLen)
    (hfix : (blocks.map (piece orig)).flatten =
      (orig.drop 0).take (blocks.map (·.msg)).flatten.length)
    (hsound : ∀ b ∈ blocks, (processBlock O fast mbs b).2 ≠ BlockStatus.failed →
      (processBlock O fast mbs b).1 = piece orig b)
    (out : Bytes) (hout : (headerOf O fast thr mbs damaged blocks).output = some out)
    (hcomplete : (headerOf O fast thr mbs damaged blocks).complete = true) :
    out = orig.take readLen ++ damaged.drop readLen := by
  obtain ⟨ho, _, hc⟩ := headerOf_output O fast thr mbs damaged blocks out hout
  rw [hc, Bool.not_eq_true'] at hcomplete
  rw [hcover, List.drop_zero, take_take_length orig damaged readLen hlen] at hfix
  rw [ho, written_sound O fast mbs thr orig blocks hsound hcomplete, List.length_map,
    List.drop_length, List.map_nil, List.append_nil, hfix, hcover, drop_take_length]

/-! ## files all of whose blocks are accepted or repaired (C01) -/

/-- the shape of the C01 file theorems, from the two possible results -/
theorem partial_of_cases (r : FileResult) (x : Bytes) (P : Prop)
    (h : r = { output := some x, corrupted := true, complete := true, partialRep := false } ∨
      (r = { output := none, corrupted := false, complete := false, partialRep := false } ∧ ¬ P)) :
    (P → r = { output := some x, corrupted := true, complete := true, partialRep := false }) ∧
    (∀ out, r.output = some out → out = x) ∧ (r.corrupted = true → r.complete = true) := by
  rcases h with rfl | ⟨rfl, hn⟩
  · exact ⟨fun _ => rfl, fun out ho => (Option.some.inj ho).symm, fun _ => rfl⟩
  · exact ⟨fun hp => absurd hp hn, fun out ho => (by cases ho), fun hc => (by cases hc)⟩

/-- What the loop leaves when every block is written as the original has it, intact if it needed
no repair and repaired if it did. -/
theorem runLoop_ok (O : Ops) (fast : Bool) (mbs thr : Nat) (orig : Bytes) (blocks : List AsmBlock)
    (hok : ∀ b ∈ blocks, processBlock O fast mbs b =
      (piece orig b, if needsRepair O fast b then .repaired else .intact)) :
    (runLoop O fast mbs thr blocks).partialFail = false ∧
    (runLoop O fast mbs thr blocks).written = blocks.map (piece orig) ∧
    (runLoop O fast mbs thr blocks).repairedOne = blocks.any (needsRepair O fast) := by
  have hnf : ∀ b ∈ blocks, (processBlock O fast mbs b).2 ≠ .failed := by
    intro b hb
    rw [hok b hb]
    cases needsRepair O fast b <;> exact BlockStatus.noConfusion
  have hpf := runLoop_partialFail_of_none_failed O fast mbs thr blocks hnf
  obtain ⟨_, hr, _⟩ := runLoop_no_partialFail O fast mbs thr blocks hpf
  refine ⟨hpf, written_sound O fast mbs thr orig blocks (fun b hb _ => by rw [hok b hb]) hpf, ?_⟩
  have hst : ∀ b ∈ blocks,
      decide ((processBlock O fast mbs b).2 = .repaired) = needsRepair O fast b := by
    intro b hb
    rw [hok b hb]
    cases needsRepair O fast b <;> rfl
  rw [hr, List.any_eq, List.any_eq, decide_eq_decide]
  exact ⟨fun ⟨b, hb, h⟩ => ⟨b, hb, hst b hb ▸ h⟩, fun ⟨b, hb, h⟩ => ⟨b, hb, (hst b hb).symm ▸ h⟩⟩


/-- blocks that need no repair and are written as the original has them are those of the original -/
theorem map_msg_eq_of_clean (O : Ops) (fast : Bool) (mbs : Nat) (orig : Bytes) (blocks : List AsmBlock)
    (hok : ∀ b ∈ blocks, processBlock O fast mbs b =
      (piece orig b, if needsRepair O fast b then .repaired else .intact))
    (hany : blocks.any (needsRepair O fast) = false) :
    blocks.map (·.msg) = blocks.map (piece orig) := by
  apply List.map_congr_left
  intro b hb
  rcases processBlock_spec O fast mbs b with ⟨_, h⟩ | ⟨hn, _⟩ | ⟨hn, _⟩
  · exact congrArg Prod.fst (h.symm.trans (hok b hb))
  · exact absurd hn (List.any_eq_false.mp hany b hb)
  · exact absurd hn (List.any_eq_false.mp hany b hb)

theorem wholeOf_ok (O : Ops) (fast : Bool) (thr mbs : Nat) (orig damaged : Bytes)
    (blocks : List AsmBlock) (hlen : damaged.length = orig.length)
    (hcover : (blocks.map (·.msg)).flatten = damaged)
    (hfix : (blocks.map (piece orig)).flatten =
      (orig.drop 0).take (blocks.map (·.msg)).flatten.length)
    (hok : ∀ b ∈ blocks, processBlock O fast mbs b =
      (piece orig b, if needsRepair O fast b then .repaired else .intact)) :
    wholeOf O fast thr mbs damaged blocks =
        { output := some orig, corrupted := true, complete := true, partialRep := false } ∨
    (wholeOf O fast thr mbs damaged blocks =
        { output := none, corrupted := false, complete := false, partialRep := false } ∧
      ¬ damaged ≠ orig) := by
  obtain ⟨hpf, hw, hr⟩ := runLoop_ok O fast mbs thr orig blocks hok
  rw [hcover, hlen, List.drop_zero, List.take_length] at hfix
  cases hany : blocks.any (needsRepair O fast) with
  | true =>
    left
    rw [hany] at hr
    simp only [wholeOf, hany, hr, hpf, hw, hfix, if_true, Bool.not_false, ← hlen, List.drop_length,
      List.append_nil]
  | false =>
    right
    refine ⟨if_neg (by rw [hany]; exact Bool.false_ne_true), Classical.not_not.mpr ?_⟩
    rw [← hcover, map_msg_eq_of_clean O fast mbs orig blocks hok hany, hfix]

theorem headerOf_ok (O : Ops) (fast : Bool) (thr mbs readLen : Nat) (orig damaged : Bytes)
    (blocks : List AsmBlock) (hlen : damaged.length = orig.length)
    (hcover : (blocks.map (·.msg)).flatten = damaged.take readLen)
    (hfix : (blocks.map (piece orig)).flatten =
      (orig.drop 0).take (blocks.map (·.msg)).flatten.length)
    (hok : ∀ b ∈ blocks, processBlock O fast mbs b =
      (piece orig b, if needsRepair O fast b then .repaired else .intact)) :
    headerOf O fast thr mbs damaged blocks =
        { output := some (orig.take readLen ++ damaged.drop readLen), corrupted := true,
          complete := true, partialRep := false } ∨
    (headerOf O fast thr mbs damaged blocks =
        { output := none, corrupted := false, complete := false, partialRep := false } ∧
      ¬ damaged.take readLen ≠ orig.take readLen) := by
  obtain ⟨hpf, hw, _⟩ := runLoop_ok O fast mbs thr orig blocks hok
  rw [hcover, List.drop_zero, take_take_length orig damaged readLen hlen] at hfix
  cases hany : blocks.any (needsRepair O fast) with
  | true =>
    left
    simp only [headerOf, runLoop_anyRepair, hany, hpf, hw, hfix, hcover, if_true, Bool.not_false,
      List.length_map, List.drop_length, List.map_nil, List.append_nil, drop_take_length]
  | false =>
    right
    refine ⟨if_neg (by rw [runLoop_anyRepair, hany]; exact Bool.false_ne_true),
      Classical.not_not.mpr ?_⟩
    rw [← hcover, map_msg_eq_of_clean O fast mbs orig blocks hok hany, hfix]

end Pff.Ecc.B
