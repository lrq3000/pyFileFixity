import Pff.Model.Merge
import Pff.Props.C06
/-! Helper lemmas for C07 (replica alignment). -/
namespace Pff.Merge
open Std

/-! ## the comparison of keys is a lawful one

`cmpComp` is the comparison of pairs and `cmpKey` that of lists (Python's tuple and list
comparison), so the order laws come from the core library. -/

theorem cmpComp_eq (a b : Nat × String) :
    cmpComp a b = compareLex (compareOn (·.1)) (compareOn (·.2)) a b := by
  simp only [cmpComp, compareLex, compareOn, compare, String.compare, compareOfLessAndEq]
  rcases Nat.lt_trichotomy a.1 b.1 with h | h | h
  · simp [h]
  · rcases Std.lt_trichotomy a.2 b.2 with h' | h' | h'
    · simp [h, h']
    · simp [h, h']
    · simp [h, h', String.lt_asymm h', (String.ne_of_lt h').symm]
  · simp [h, Nat.lt_asymm h, Nat.ne_of_gt h]

instance : TransCmp cmpComp := (funext fun a => funext (cmpComp_eq a)) ▸ inferInstance

instance : LawfulEqCmp cmpComp where
  eq_of_compare {a b} h := by
    rw [cmpComp_eq, compareLex_eq_eq] at h
    exact Prod.ext (LawfulEqOrd.eq_of_compare h.1) (LawfulEqOrd.eq_of_compare h.2)

theorem cmpComp_lt_iff (a b : Nat × String) :
    cmpComp a b = .lt ↔ a.1 < b.1 ∨ (a.1 = b.1 ∧ a.2 < b.2) := by
  rw [cmpComp_eq, compareLex, Ordering.then_eq_lt, compareOn, compareOn, Nat.compare_eq_lt,
    Nat.compare_eq_eq]
  exact or_congr_right (and_congr_right fun _ => compareOfLessAndEq_eq_lt)

theorem cmpKey_eq : cmpKey = List.compareLex cmpComp := by
  funext a b
  induction a generalizing b with
  | nil => cases b <;> rfl
  | cons x a ih =>
    cases b with
    | nil => rfl
    | cons y b => rw [cmpKey, ih, List.compareLex]; cases cmpComp x y <;> rfl

instance : TransCmp cmpKey := cmpKey_eq ▸ inferInstance
instance : LawfulEqCmp cmpKey := cmpKey_eq ▸ inferInstance

theorem cmpKey_cons_lt (a b : Nat × String) (as bs : List (Nat × String)) :
    cmpKey (a :: as) (b :: bs) = .lt ↔ cmpComp a b = .lt ∨ (a = b ∧ cmpKey as bs = .lt) := by
  rw [cmpKey_eq, List.compareLex_cons_cons, Ordering.then_eq_lt, LawfulEqCmp.compare_eq_iff_eq]

/-! ## the key of a path -/

theorem key_single (f : String) : key [f] = [(0, f)] := by simp [key]

theorem key_cons (d : String) (q : Path) (hq : q ≠ []) : key (d :: q) = (1, d) :: key q := by
  cases q with
  | nil => exact absurd rfl hq
  | cons e r => simp [key]

/-- the key determines the path -/
theorem map_snd_key : ∀ p : Path, p ≠ [] → (key p).map (·.2) = p
  | [], h => absurd rfl h
  | [_], _ => rfl
  | d :: e :: r, _ => by
    rw [key_cons d _ (List.cons_ne_nil e r), List.map_cons, map_snd_key _ (List.cons_ne_nil e r)]

theorem key_inj (p q : Path) (hp : p ≠ []) (hq : q ≠ []) (h : key p = key q) : p = q := by
  rw [← map_snd_key p hp, h, map_snd_key q hq]

/-! ## `pathLt` is a strict total order on non-empty paths -/

theorem pathLt_iff (p q : Path) : pathLt p q = true ↔ cmpKey (key p) (key q) = .lt := by
  simp [pathLt]

theorem pathLt_irrefl (p : Path) : pathLt p p = false := by
  simp [pathLt, ReflCmp.compare_self]

theorem pathLt_trans {p q r : Path} (h1 : pathLt p q = true) (h2 : pathLt q r = true) :
    pathLt p r = true := by
  rw [pathLt_iff] at *
  exact TransCmp.lt_trans h1 h2

theorem pathLt_asymm {p q : Path} (h : pathLt p q = true) : pathLt q p = false := by
  rw [← Bool.not_eq_true, pathLt_iff]
  exact OrientedCmp.not_lt_of_lt ((pathLt_iff p q).1 h)

theorem pathLt_tri (p q : Path) (hp : p ≠ []) (hq : q ≠ []) :
    pathLt p q = true ∨ p = q ∨ pathLt q p = true := by
  rw [pathLt_iff, pathLt_iff]
  cases h : cmpKey (key p) (key q) with
  | lt => exact .inl rfl
  | eq => exact .inr (.inl (key_inj p q hp hq (LawfulEqCmp.eq_of_compare h)))
  | gt => exact .inr (.inr (OrientedCmp.lt_of_gt h))

/-- negative transitivity (holds for all paths, as it holds on keys) -/
theorem pathLt_negtrans {p q r : Path} (h1 : pathLt p q = false) (h2 : pathLt q r = false) :
    pathLt p r = false := by
  rw [← Bool.not_eq_true, pathLt_iff, Ordering.ne_lt_iff_isGE] at *
  exact TransCmp.isGE_trans h1 h2

theorem pathLt_ne {p q : Path} (h : pathLt p q = true) : p ≠ q := by
  rintro rfl
  rw [pathLt_irrefl] at h
  cases h

/-! ## `pathLt` on the shapes produced by `walk` -/

theorem pathLt_file_file (f g : String) : pathLt [f] [g] = true ↔ f < g := by
  rw [pathLt_iff, key_single, key_single, cmpKey_cons_lt, cmpComp_lt_iff]
  simp [cmpKey]

theorem pathLt_file_dir (f d : String) (q : Path) (hq : q ≠ []) : pathLt [f] (d :: q) = true := by
  rw [pathLt_iff, key_single, key_cons d q hq, cmpKey_cons_lt, cmpComp_lt_iff]
  exact .inl (.inl (Nat.zero_lt_one))

theorem pathLt_dir_dir {d d' : String} (q q' : Path) (hq : q ≠ []) (hq' : q' ≠ []) (h : d < d') :
    pathLt (d :: q) (d' :: q') = true := by
  rw [pathLt_iff, key_cons d q hq, key_cons d' q' hq', cmpKey_cons_lt, cmpComp_lt_iff]
  exact .inl (.inr ⟨rfl, h⟩)

theorem pathLt_dir_same (d : String) (q q' : Path) (hq : q ≠ []) (hq' : q' ≠ [])
    (h : pathLt q q' = true) : pathLt (d :: q) (d :: q') = true := by
  rw [pathLt_iff] at *
  rw [key_cons d q hq, key_cons d q' hq', cmpKey_cons_lt]
  exact .inr ⟨rfl, h⟩

/-! ## the walk is strictly increasing -/

/-- local name of the strict alignment order (`Before` of `Props/C07.lean`) -/
abbrev Lt (p q : Path) : Prop := pathLt p q = true

mutual
theorem walk_spec : (t : Tree) → Sorted t →
    ((walk t).map (·.1)).Pairwise Lt ∧ ∀ pc ∈ walk t, pc.1 ≠ []
  | .node files dirs, h => by
    rw [Sorted] at h
    obtain ⟨hf, hd, hsd⟩ := h
    obtain ⟨ih1, ih2⟩ := walkDirs_spec dirs hd hsd
    rw [walk]
    constructor
    · rw [List.map_append, List.pairwise_append]
      refine ⟨?_, ih1, ?_⟩
      · rw [List.map_map, List.pairwise_map]
        rw [List.pairwise_map] at hf
        exact hf.imp (fun {a b} hab => (pathLt_file_file a.1 b.1).2 hab)
      · intro a ha b hb
        simp only [List.map_map, List.mem_map, Function.comp] at ha hb
        obtain ⟨fc, _, rfl⟩ := ha
        obtain ⟨pc, hpc, rfl⟩ := hb
        obtain ⟨d, q, e, hq, _⟩ := ih2 pc hpc
        rw [e]
        exact pathLt_file_dir _ _ _ hq
    · intro pc hpc
      rw [List.mem_append] at hpc
      rcases hpc with hpc | hpc
      · simp only [List.mem_map] at hpc
        obtain ⟨fc, _, rfl⟩ := hpc
        simp
      · obtain ⟨d, q, e, _, _⟩ := ih2 pc hpc
        rw [e]; simp
theorem walkDirs_spec : (dirs : List (String × Tree)) →
    (dirs.map (·.1)).Pairwise (· < ·) → Sorted.SortedDirs dirs →
    ((walk.walkDirs dirs).map (·.1)).Pairwise Lt ∧
      ∀ pc ∈ walk.walkDirs dirs, ∃ d q, pc.1 = d :: q ∧ q ≠ [] ∧ d ∈ dirs.map (·.1)
  | [], _, _ => by simp [walk.walkDirs]
  | (d, t) :: rest, hd, hsd => by
    rw [Sorted.SortedDirs] at hsd
    rw [List.map_cons, List.pairwise_cons] at hd
    obtain ⟨ht1, ht2⟩ := walk_spec t hsd.1
    obtain ⟨ih1, ih2⟩ := walkDirs_spec rest hd.2 hsd.2
    rw [walk.walkDirs]
    constructor
    · rw [List.map_append, List.pairwise_append]
      refine ⟨?_, ih1, ?_⟩
      · rw [List.map_map, List.pairwise_map]
        rw [List.pairwise_map] at ht1
        exact ht1.imp_of_mem (fun {a b} ha hb hab =>
          pathLt_dir_same d a.1 b.1 (ht2 a ha) (ht2 b hb) hab)
      · intro a ha b hb
        simp only [List.map_map, List.mem_map, Function.comp] at ha hb
        obtain ⟨pa, hpa, rfl⟩ := ha
        obtain ⟨pb, hpb, rfl⟩ := hb
        obtain ⟨d', q, e, hq, hd'⟩ := ih2 pb hpb
        rw [e]
        exact pathLt_dir_dir _ _ (ht2 pa hpa) hq (hd.1 d' hd')
    · intro pc hpc
      rw [List.mem_append] at hpc
      rcases hpc with hpc | hpc
      · simp only [List.mem_map] at hpc
        obtain ⟨pa, hpa, rfl⟩ := hpc
        exact ⟨d, pa.1, rfl, ht2 pa hpa, by simp⟩
      · obtain ⟨d', q, e, hq, hd'⟩ := ih2 pc hpc
        exact ⟨d', q, e, hq, List.mem_cons_of_mem _ hd'⟩
end

/-! ## `minHead` -/

theorem minHead_none (hs : List (Option Path)) (h : minHead hs = none) : ∀ o ∈ hs, o = none := by
  fun_induction minHead hs with
  | case1 => simp
  | case2 rest ih => simpa using ih h
  | case3 p rest _ => cases h
  | case4 p rest q _ hqp => cases h
  | case5 p rest q _ hqp => cases h

/-- `minHead` returns a head that no other head precedes -/
theorem minHead_some (hs : List (Option Path)) (p : Path) (h : minHead hs = some p) :
    some p ∈ hs ∧ ∀ q, some q ∈ hs → pathLt q p = false := by
  fun_induction minHead hs generalizing p with
  | case1 => cases h
  | case2 rest ih =>
    obtain ⟨h1, h2⟩ := ih p h
    exact ⟨List.mem_cons_of_mem _ h1, fun q hq => h2 q (by simpa using hq)⟩
  | case3 a rest hm =>
    cases h
    refine ⟨List.mem_cons_self .., fun q hq => ?_⟩
    rcases List.mem_cons.1 hq with hq | hq
    · cases hq; exact pathLt_irrefl _
    · cases minHead_none rest hm _ hq
  | case4 a rest b hm hba ih =>
    cases h
    obtain ⟨h1, h2⟩ := ih b hm
    refine ⟨List.mem_cons_of_mem _ h1, fun q hq => ?_⟩
    rcases List.mem_cons.1 hq with hq | hq
    · cases hq; exact pathLt_asymm hba
    · exact h2 q hq
  | case5 a rest b hm hba ih =>
    cases h
    obtain ⟨_, h2⟩ := ih b hm
    refine ⟨List.mem_cons_self .., fun q hq => ?_⟩
    rcases List.mem_cons.1 hq with hq | hq
    · cases hq; exact pathLt_irrefl _
    · exact pathLt_negtrans (h2 q hq) (by simpa using hba)

/-- the heads examined by one round of the loop -/
def heads (cursors : List Cursor) : List (Option Path) :=
  cursors.map (fun c => c.head?.map (·.1))

theorem some_mem_heads {q : Path} {cursors : List Cursor} :
    some q ∈ heads cursors ↔ ∃ c ∈ cursors, ∃ b rest, c = (q, b) :: rest := by
  unfold heads
  rw [List.mem_map]
  constructor
  · rintro ⟨c, hc, h⟩
    cases c with
    | nil => simp at h
    | cons hd rest =>
      obtain ⟨q', b⟩ := hd
      simp only [List.head?_cons, Option.map_some, Option.some.injEq] at h
      subst h
      exact ⟨_, hc, b, rest, rfl⟩
  · rintro ⟨c, hc, b, rest, rfl⟩
    exact ⟨_, hc, by simp⟩

/-- the chosen head is a lower bound of every path still to be read -/
theorem min_le_all {cursors : List Cursor} {p : Path}
    (hs : ∀ c ∈ cursors, (c.map (·.1)).Pairwise Lt) (hne : ∀ c ∈ cursors, ∀ pc ∈ c, pc.1 ≠ [])
    (hm : minHead (heads cursors) = some p) :
    ∀ c ∈ cursors, ∀ pc ∈ c, pc.1 = p ∨ Lt p pc.1 := by
  obtain ⟨h1, h2⟩ := minHead_some _ _ hm
  obtain ⟨c0, hc0, b0, r0, e0⟩ := some_mem_heads.1 h1
  have hp : p ≠ [] := hne c0 hc0 (p, b0) (by rw [e0]; exact List.mem_cons_self ..)
  intro c hc pc hpc
  cases c with
  | nil => cases hpc
  | cons hd rest =>
    obtain ⟨q, b⟩ := hd
    have hq : q ≠ [] := hne _ hc (q, b) (List.mem_cons_self ..)
    have hqp : pathLt q p = false := h2 q (some_mem_heads.2 ⟨_, hc, b, rest, rfl⟩)
    have hpq : q = p ∨ Lt p q := by
      rcases pathLt_tri q p hq hp with h | h | h
      · rw [hqp] at h; cases h
      · exact .inl h
      · exact .inr h
    rcases List.mem_cons.1 hpc with rfl | hpc
    · exact hpq
    · have hsc := hs _ hc
      rw [List.map_cons, List.pairwise_cons] at hsc
      have hlt : Lt q pc.1 := hsc.1 pc.1 (List.mem_map_of_mem hpc)
      rcases hpq with rfl | hpq
      · exact .inr hlt
      · exact .inr (pathLt_trans hpq hlt)

/-! ## one round: the group of `p` and the cursors advanced past `p` -/

/-- one cursor advanced past `p` -/
def adv1 (p : Path) (c : Cursor) : Cursor :=
  match c with
  | (q, _) :: rest => if q = p then rest else c
  | [] => []

theorem advance_eq (p : Path) (cursors : List Cursor) :
    advance p cursors = cursors.map (adv1 p) := rfl

/-- the copies of `p` in the replicas that hold it, with the replica index -/
def holders (p : Path) (cursors : List Cursor) : List (Nat × Bytes) :=
  cursors.zipIdx.filterMap
    (fun ci => (ci.1.find? (fun pc => pc.1 = p)).map (fun pc => (ci.2, pc.2)))

/-- in an increasing cursor bounded below by `p`, only the head can be `p` -/
theorem tail_gt {p : Path} {x : Path × Bytes} {rest : Cursor}
    (hs : (((x :: rest : Cursor)).map (·.1)).Pairwise Lt)
    (hmin : x.1 = p ∨ Lt p x.1) : ∀ pc ∈ rest, Lt p pc.1 := by
  intro pc hpc
  rw [List.map_cons, List.pairwise_cons] at hs
  have hlt : Lt x.1 pc.1 := hs.1 pc.1 (List.mem_map_of_mem hpc)
  rcases hmin with rfl | h
  · exact hlt
  · exact pathLt_trans h hlt

/-- advancing past the minimum `p` removes exactly the entries for `p` -/
theorem adv1_eq_filter {p : Path} {c : Cursor} (hs : (c.map (·.1)).Pairwise Lt)
    (hmin : ∀ pc ∈ c, pc.1 = p ∨ Lt p pc.1) : adv1 p c = c.filter (fun pc => pc.1 != p) := by
  match c with
  | [] => rfl
  | (q, b) :: rest =>
    have hrest : rest.filter (fun pc => pc.1 != p) = rest :=
      List.filter_eq_self.2 fun pc hpc => by
        simpa using (pathLt_ne (tail_gt hs (hmin _ (List.mem_cons_self ..)) pc hpc)).symm
    by_cases h : q = p
    · rw [List.filter_cons_of_neg (by simpa using h), hrest, adv1, if_pos h]
    · rw [List.filter_cons_of_pos (by simpa using h), hrest, adv1, if_neg h]

/-- the replicas whose head is `p` are those that hold `p` -/
theorem groupOf_eq {cursors : List Cursor} {p : Path}
    (hs : ∀ c ∈ cursors, (c.map (·.1)).Pairwise Lt)
    (hmin : ∀ c ∈ cursors, ∀ pc ∈ c, pc.1 = p ∨ Lt p pc.1) :
    groupOf p cursors = holders p cursors := by
  apply Pff.Vote.filterMap_congr'
  intro ci hci
  have hc := List.fst_mem_of_mem_zipIdx hci
  obtain ⟨c, i⟩ := ci
  cases c with
  | nil => rfl
  | cons x rest =>
    by_cases h : x.1 = p
    · simp [h]
    · have hnone : rest.find? (fun pc => pc.1 = p) = none :=
        List.find?_eq_none.2 fun pc hpc => by
          simpa using (pathLt_ne (tail_gt (hs _ hc) (hmin _ hc x (List.mem_cons_self ..)) pc hpc)).symm
      simp [h, hnone]

/-! ## the alignment loop -/

theorem remaining_cons (c : Cursor) (cs : List Cursor) :
    remaining (c :: cs) = c.length + remaining cs := by
  simp [remaining]

/-- the termination measure drops when no cursor grows and one shrinks -/
theorem remaining_map_lt (f : Cursor → Cursor) (hle : ∀ c, (f c).length ≤ c.length) :
    ∀ cursors : List Cursor, remaining (cursors.map f) ≤ remaining cursors ∧
      ((∃ c ∈ cursors, (f c).length < c.length) → remaining (cursors.map f) < remaining cursors)
  | [] => ⟨Nat.le_refl _, fun ⟨_, hc, _⟩ => nomatch hc⟩
  | c :: cs => by
    rw [List.map_cons, remaining_cons, remaining_cons]
    obtain ⟨h1, h2⟩ := remaining_map_lt f hle cs
    have := hle c
    refine ⟨by omega, ?_⟩
    rintro ⟨c', hc', hlt⟩
    rcases List.mem_cons.1 hc' with rfl | hc'
    · omega
    · have := h2 ⟨c', hc', hlt⟩; omega

theorem align_succ_none (fuel : Nat) (cursors : List Cursor)
    (h : minHead (heads cursors) = none) : align (fuel + 1) cursors = [] := by
  unfold heads at h
  simp only [align, h]

theorem align_succ_some (fuel : Nat) (cursors : List Cursor) (p : Path)
    (h : minHead (heads cursors) = some p) :
    align (fuel + 1) cursors = (p, groupOf p cursors) :: align fuel (cursors.map (adv1 p)) := by
  unfold heads at h
  simp only [align, h, advance_eq]

theorem align_spec : ∀ (fuel : Nat) (cursors : List Cursor), remaining cursors < fuel →
    (∀ c ∈ cursors, (c.map (·.1)).Pairwise Lt) → (∀ c ∈ cursors, ∀ pc ∈ c, pc.1 ≠ []) →
    ((align fuel cursors).map (·.1)).Pairwise Lt ∧
    (∀ p, p ∈ (align fuel cursors).map (·.1) ↔ ∃ c ∈ cursors, p ∈ c.map (·.1)) ∧
    (∀ pg ∈ align fuel cursors, pg.2 = holders pg.1 cursors)
  | 0, _, h, _, _ => by omega
  | fuel + 1, cursors, hfuel, hs, hne => by
    cases hm : minHead (heads cursors) with
    | none =>
      rw [align_succ_none _ _ hm]
      refine ⟨by simp, fun p => ?_, by simp⟩
      simp only [List.map_nil, List.not_mem_nil, false_iff]
      rintro ⟨c, hc, hp⟩
      have := minHead_none _ hm _ (List.mem_map_of_mem (f := fun c : Cursor => c.head?.map (·.1)) hc)
      cases c with
      | nil => cases hp
      | cons a l => simp at this
    | some p =>
      have hmin := min_le_all hs hne hm
      obtain ⟨c0, hc0, b0, r0, e0⟩ := some_mem_heads.1 (minHead_some _ _ hm).1
      -- under the invariant, advancing deletes the entries for `p`
      let del : Cursor → Cursor := List.filter (fun pc => pc.1 != p)
      have hadv : cursors.map (adv1 p) = cursors.map del :=
        List.map_congr_left fun c hc => adv1_eq_filter (hs c hc) (hmin c hc)
      have hdel : ∀ {c pc}, pc ∈ del c ↔ pc ∈ c ∧ pc.1 ≠ p := by simp [del]
      rw [align_succ_some _ _ _ hm, hadv, groupOf_eq hs hmin]
      have hrem : remaining (cursors.map del) < remaining cursors :=
        (remaining_map_lt del (fun c => List.length_filter_le _ c) cursors).2
          ⟨c0, hc0, List.length_filter_lt_length_iff_exists.2 ⟨(p, b0), by simp [e0], by simp⟩⟩
      obtain ⟨ih1, ih2, ih3⟩ := align_spec fuel (cursors.map del) (by omega)
        (fun c' hc' => by
          obtain ⟨c, hc, rfl⟩ := List.mem_map.1 hc'
          exact (hs c hc).sublist (List.filter_sublist.map _))
        (fun c' hc' pc hpc => by
          obtain ⟨c, hc, rfl⟩ := List.mem_map.1 hc'
          exact hne c hc pc (hdel.1 hpc).1)
      -- every path emitted later is strictly after `p`
      have hgt : ∀ q ∈ (align fuel (cursors.map del)).map (·.1), Lt p q := by
        intro q hq
        obtain ⟨c', hc', hq'⟩ := (ih2 q).1 hq
        obtain ⟨c, hc, rfl⟩ := List.mem_map.1 hc'
        obtain ⟨pc, hpc, rfl⟩ := List.mem_map.1 hq'
        exact (hmin c hc pc (hdel.1 hpc).1).resolve_left (hdel.1 hpc).2
      refine ⟨List.pairwise_cons.2 ⟨hgt, ih1⟩, fun q => ?_, fun pg hpg => ?_⟩
      · rw [List.map_cons, List.mem_cons, ih2]
        constructor
        · rintro (rfl | ⟨c', hc', hq'⟩)
          · exact ⟨c0, hc0, by simp [e0]⟩
          · obtain ⟨c, hc, rfl⟩ := List.mem_map.1 hc'
            exact ⟨c, hc, (List.filter_sublist.map _).subset hq'⟩
        · rintro ⟨c, hc, hq⟩
          by_cases hqp : q = p
          · exact .inl hqp
          · obtain ⟨pc, hpc, rfl⟩ := List.mem_map.1 hq
            exact .inr ⟨del c, List.mem_map_of_mem hc, List.mem_map_of_mem (hdel.2 ⟨hpc, hqp⟩)⟩
      · rcases List.mem_cons.1 hpg with rfl | hpg
        · rfl
        · have hq : pg.1 ≠ p := (pathLt_ne (hgt pg.1 (List.mem_map_of_mem hpg))).symm
          rw [ih3 pg hpg, holders, holders, List.zipIdx_map, List.filterMap_map]
          apply Pff.Vote.filterMap_congr'
          intro ci _
          simp only [Function.comp, Prod.map, id, del, List.find?_filter]
          congr 2
          funext pc
          by_cases h : pc.1 = pg.1 <;> simp [h, hq]

/-! ## `dup` -/

theorem walks_inc (replicas : List Tree) (hs : ∀ t ∈ replicas, Sorted t) :
    (∀ c ∈ replicas.map walk, (c.map (·.1)).Pairwise Lt) ∧
    (∀ c ∈ replicas.map walk, ∀ pc ∈ c, pc.1 ≠ []) := by
  constructor
  · intro c hc
    obtain ⟨t, ht, rfl⟩ := List.mem_map.1 hc
    exact (walk_spec t (hs t ht)).1
  · intro c hc
    obtain ⟨t, ht, rfl⟩ := List.mem_map.1 hc
    exact (walk_spec t (hs t ht)).2

/-- the groups formed by `dup` -/
def dupGroups (replicas : List Tree) : List (Path × List (Nat × Bytes)) :=
  align (remaining (replicas.map walk) + 1) (replicas.map walk)

theorem dup_used (bs : Nat) (replicas : List Tree) :
    (dup bs replicas).used = (dupGroups replicas).map (fun pg => (pg.1, pg.2.map (·.1))) := rfl

theorem dup_files (bs : Nat) (replicas : List Tree) :
    (dup bs replicas).files =
      (dupGroups replicas).map (fun pg => (pg.1, (processGroup bs pg.2).1)) :=
  List.map_map

theorem dupGroups_spec (replicas : List Tree) (hs : ∀ t ∈ replicas, Sorted t) :
    ((dupGroups replicas).map (·.1)).Pairwise Lt ∧
    (∀ p, p ∈ (dupGroups replicas).map (·.1) ↔ ∃ t ∈ replicas, p ∈ (walk t).map (·.1)) ∧
    (∀ pg ∈ dupGroups replicas, pg.2 = holders pg.1 (replicas.map walk)) := by
  obtain ⟨h1, h2, h3⟩ :=
    align_spec _ _ (Nat.lt_succ_self _) (walks_inc replicas hs).1 (walks_inc replicas hs).2
  refine ⟨h1, fun p => ?_, h3⟩
  rw [dupGroups, h2]
  constructor
  · rintro ⟨c, hc, hp⟩
    obtain ⟨t, ht, rfl⟩ := List.mem_map.1 hc
    exact ⟨t, ht, hp⟩
  · rintro ⟨t, ht, hp⟩
    exact ⟨walk t, List.mem_map_of_mem ht, hp⟩

/-- replica indices of a group: exactly the replicas containing the path -/
theorem holders_fst (cursors : List Cursor) (p : Path) :
    (holders p cursors).map (·.1) =
      (cursors.zipIdx).filterMap (fun ci => if p ∈ ci.1.map (·.1) then some ci.2 else none) := by
  rw [holders, List.map_filterMap]
  apply Pff.Vote.filterMap_congr'
  intro ci _
  cases h : ci.1.find? (fun pc => pc.1 = p) with
  | none =>
    have hnot : p ∉ ci.1.map (·.1) := by
      rw [List.find?_eq_none] at h
      intro hm
      obtain ⟨pc, hpc, e⟩ := List.mem_map.1 hm
      exact h pc hpc (by simpa using e)
    simp [hnot]
  | some x =>
    have hin : p ∈ ci.1.map (·.1) :=
      List.mem_map.2 ⟨x, List.mem_of_find?_eq_some h, by simpa using List.find?_some h⟩
    simp [hin]

/-- contents of a group: the copies of the path, in replica order -/
theorem holders_snd (cursors : List Cursor) (p : Path) :
    (holders p cursors).map (·.2) =
      cursors.filterMap (fun w => (w.find? (fun pc => pc.1 = p)).map (·.2)) := by
  rw [holders, List.map_filterMap]
  conv => rhs; rw [← List.zipIdx_map_fst 0 cursors, List.filterMap_map]
  apply Pff.Vote.filterMap_congr'
  intro ci _
  simp only [Option.map_map, Function.comp]
  rfl

/-- a path held by some replica has a group, made of the replicas' copies in replica order -/
theorem dupGroups_copies (replicas : List Tree) (hs : ∀ t ∈ replicas, Sorted t) (p : Path)
    (copies : List Bytes)
    (hcopies : copies = (replicas.map walk).filterMap
        (fun w => (w.find? (fun pc => pc.1 = p)).map (·.2)))
    (h1 : 1 ≤ copies.length) :
    ∃ pg ∈ dupGroups replicas, pg.1 = p ∧ pg.2.map (·.2) = copies := by
  obtain ⟨_, h2, h3⟩ := dupGroups_spec replicas hs
  obtain ⟨x, hx⟩ := List.exists_mem_of_length_pos h1
  rw [hcopies, List.mem_filterMap] at hx
  obtain ⟨w, hw, hfx⟩ := hx
  obtain ⟨t, ht, rfl⟩ := List.mem_map.1 hw
  obtain ⟨pc, hfind, _⟩ := Option.map_eq_some_iff.1 hfx
  have hp : p ∈ (walk t).map (·.1) :=
    List.mem_map.2 ⟨pc, List.mem_of_find?_eq_some hfind, by simpa using List.find?_some hfind⟩
  obtain ⟨pg, hpg, hpgp⟩ := List.mem_map.1 ((h2 p).2 ⟨t, ht, hp⟩)
  exact ⟨pg, hpg, hpgp, by rw [h3 pg hpg, holders_snd, hpgp, hcopies]⟩

theorem processGroup_restores (bs : Nat) (hbs : 0 < bs) (g : List (Nat × Bytes)) (orig : Bytes)
    (h3 : 3 ≤ (g.map (·.2)).length)
    (hlen : orig.length = Pff.Vote.maxLen (g.map (·.2)))
    (hmaj : ∀ j (hj : j < orig.length),
        (Pff.Vote.column (g.map (·.2)) j).length <
          2 * (Pff.Vote.column (g.map (·.2)) j).count orig[j]) :
    (processGroup bs g).1 = orig := by
  unfold processGroup
  split
  · simp at h3
  · simp only [Pff.Vote.majorityVote]
    rw [if_neg (by omega)]
    exact (Pff.Vote.C06_majority_restores bs hbs _ orig hlen hmaj).1

end Pff.Merge
