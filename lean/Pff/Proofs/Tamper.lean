import Pff.Model.Tamper
/-! Helper lemmas for C19 (tampering tool): what a run guarantees of the bytes it leaves is one
relation, `Tampered`, kept by every layer of the tool (positions, block, block loop); `tamperFile`
is the block loop in both of its modes. -/
namespace Pff.Tamper

/-- beyond its end a prefix matters by its length only -/
theorem drop_append_of_length_le {α : Type} {a a' : List α} (t : List α) {n : Nat}
    (h : a.length = a'.length) (hn : a'.length ≤ n) : (a ++ t).drop n = (a' ++ t).drop n := by
  rw [List.drop_append, List.drop_append, h, List.drop_eq_nil_of_le hn,
    List.drop_eq_nil_of_le (h ▸ hn)]

/-! ### `diffCount` -/

theorem diffCount_self (l : Bytes) : diffCount l l = 0 := by
  induction l with
  | nil => rfl
  | cons x xs ih => simp only [diffCount, ih, if_pos]

theorem diffCount_set_le (l l' : Bytes) (p v : Nat) :
    diffCount (l.set p v) l' ≤ diffCount l l' + 1 := by
  induction l generalizing l' p with
  | nil => exact Nat.le_succ _
  | cons x xs ih =>
    cases l' with
    | nil => cases p <;> exact Nat.le_succ _
    | cons y ys =>
      cases p with
      | zero =>
        simp only [List.set_cons_zero, diffCount]
        split <;> omega
      | succ p =>
        simp only [List.set_cons_succ, diffCount]
        have := ih ys p
        omega

theorem diffCount_append (a a' b b' : Bytes) (h : a.length = a'.length) :
    diffCount (a ++ b) (a' ++ b') = diffCount a a' + diffCount b b' := by
  induction a generalizing a' with
  | nil =>
    rw [List.eq_nil_of_length_eq_zero h.symm]
    exact (Nat.zero_add _).symm
  | cons x xs ih =>
    cases a' with
    | nil => cases h
    | cons y ys => simp only [List.cons_append, diffCount, ih ys (Nat.succ.inj h), Nat.add_assoc]

theorem diffCount_le_length (a b : Bytes) : diffCount a b ≤ a.length := by
  induction a generalizing b with
  | nil => exact Nat.le_refl 0
  | cons x xs ih =>
    cases b with
    | nil => exact Nat.zero_le _
    | cons y ys =>
      simp only [diffCount, List.length_cons]
      have := ih ys
      split <;> omega

/-! ### what a run guarantees -/

/-- `new` stands where `orig` stood after `count` positions were selected: same length, at most
`count` bytes differ, and in erasure mode a byte that differs is zero. -/
structure Tampered (mode : Mode) (orig new : Bytes) (count : Nat) : Prop where
  length : new.length = orig.length
  diff : diffCount new orig ≤ count
  erased : mode = .erasure → ∀ j : Nat, new[j]? = orig[j]? ∨ new[j]? = some 0

namespace Tampered

theorem refl (mode : Mode) (l : Bytes) : Tampered mode l l 0 :=
  ⟨rfl, Nat.le_of_eq (diffCount_self l), fun _ _ => Or.inl rfl⟩

theorem mono {mode : Mode} {orig new : Bytes} {c c' : Nat} (h : Tampered mode orig new c)
    (hc : c ≤ c') : Tampered mode orig new c' :=
  ⟨h.length, Nat.le_trans h.diff hc, h.erased⟩

theorem set {mode : Mode} {orig new : Bytes} {c : Nat} (h : Tampered mode orig new c)
    (p : Nat) {v : Nat} (hv : mode = .erasure → v = 0) :
    Tampered mode orig (new.set p v) (c + 1) where
  length := by rw [List.length_set, h.length]
  diff := Nat.le_trans (diffCount_set_le ..) (Nat.succ_le_succ h.diff)
  erased hm j := by
    rw [List.getElem?_set, hv hm]
    split
    · split
      · exact Or.inr rfl
      · exact Or.inl (List.getElem?_eq_none (by rw [← h.length]; omega)).symm
    · exact h.erased hm j

/-- block after block -/
theorem append {mode : Mode} {a a' b b' : Bytes} {c d : Nat} (ha : Tampered mode a a' c)
    (hb : Tampered mode b b' d) : Tampered mode (a ++ b) (a' ++ b') (c + d) where
  length := by rw [List.length_append, List.length_append, ha.length, hb.length]
  diff := by
    rw [diffCount_append _ _ _ _ ha.length]
    exact Nat.add_le_add ha.diff hb.diff
  erased hm j := by
    rw [List.getElem?_append, List.getElem?_append, ha.length]
    split
    · exact ha.erased hm j
    · exact hb.erased hm _

end Tampered

/-! ### positions, block, block loop -/

theorem selectPositions_length_le (burst : Bool) (n i r : Nat) (ρ : List Nat) :
    (selectPositions burst n i r ρ).1.length ≤ n := by
  fun_induction selectPositions burst n i r ρ with
  | case1 => exact Nat.le_refl 0
  | case5 _ _ _ _ _ _ _ _ _ ih => exact Nat.le_succ_of_le ih
  | _ =>
    -- position `i` is kept
    rename_i x ih
    rw [x] at ih
    exact Nat.succ_le_succ ih

theorem applyPositions_tampered (mode : Mode) (ps : List Nat) (orig buf : Bytes) (ρ : List Nat)
    (c : Nat) (h : Tampered mode orig buf c) :
    Tampered mode orig (applyPositions mode ps buf ρ).1 (c + ps.length) := by
  fun_induction applyPositions mode ps buf ρ generalizing c with
  | case1 => exact h
  | case2 p ps buf ρ hm ih =>
    subst hm
    exact Nat.succ_add_eq_add_succ .. ▸ ih _ (h.set p fun _ => rfl)
  | case3 p ps buf ρ hm v ρ' _ ih =>
    subst hm
    exact Nat.succ_add_eq_add_succ .. ▸ ih _ (h.set p fun he => nomatch he)
  | case4 p ps buf ρ hm ih =>
    subst hm
    exact (ih c h).mono (Nat.le_succ _)

theorem tamperBlock_tampered (P : Params) (buf : Bytes) (ρ : List Nat) :
    Tampered P.mode buf (tamperBlock P buf ρ).1 (tamperBlock P buf ρ).2.1 ∧
      (tamperBlock P buf ρ).2.1 ≤ buf.length := by
  unfold tamperBlock
  -- whatever the block coin says
  generalize (if P.blockCoin = true then _ else _ : Bool × List Nat) = coin
  obtain ⟨go, ρ1⟩ := coin
  cases go
  · exact ⟨Tampered.refl _ buf, Nat.zero_le _⟩
  · refine ⟨?_, selectPositions_length_le ..⟩
    simpa only [Nat.zero_add, ↓reduceIte] using
      applyPositions_tampered _ _ _ _ _ _ (Tampered.refl _ buf)

/-- The loop of `fuel` rounds at most: the count is at most the size scanned, which is at most
`fuel` blocks and at most the input. -/
theorem tamperLoop_tampered (P : Params) (bs fuel : Nat) (rest : Bytes) (ρ : List Nat) :
    Tampered P.mode rest (tamperLoop P bs fuel rest ρ).1 (tamperLoop P bs fuel rest ρ).2.1 ∧
      (tamperLoop P bs fuel rest ρ).2.1 ≤ (tamperLoop P bs fuel rest ρ).2.2.1 ∧
      (tamperLoop P bs fuel rest ρ).2.2.1 ≤ fuel * bs ∧
      (tamperLoop P bs fuel rest ρ).2.2.1 ≤ rest.length := by
  fun_induction tamperLoop P bs fuel rest ρ with
  | case1 rest | case2 _ rest =>
    exact ⟨Tampered.refl _ rest, Nat.le_refl 0, Nat.zero_le _, Nat.zero_le _⟩
  | case3 fuel rest ρ buf _ buf' c ρ1 hb tail c2 t2 ρ2 hl ih =>
    have hblock := tamperBlock_tampered P buf ρ
    rw [hb] at hblock
    rw [hl] at ih
    have hcut : buf ++ rest.drop bs = rest := List.take_append_drop ..
    refine ⟨hcut ▸ hblock.1.append ih.1, Nat.add_le_add hblock.2 ih.2.1, ?_, ?_⟩
    · rw [Nat.succ_mul, Nat.add_comm (fuel * bs)]
      exact Nat.add_le_add (List.length_take_le ..) ih.2.2.1
    · rw [← congrArg List.length hcut, List.length_append]
      exact Nat.add_le_add_left ih.2.2.2 _

/-! ### `tamperFile` -/

/-- block size and number of rounds of `tamper_file`: with `header`, one block of that size -/
def rounds (P : Params) (content : Bytes) : Nat × Nat :=
  match P.header with
  | some h => (h, 1)
  | none => (P.blocksize, content.length + 1)

theorem tamperFile_eq_loop (P : Params) (content : Bytes) (ρ : List Nat) :
    tamperFile P content ρ =
      { content := (tamperLoop P (rounds P content).1 (rounds P content).2 content ρ).1
        count := (tamperLoop P (rounds P content).1 (rounds P content).2 content ρ).2.1
        total := (tamperLoop P (rounds P content).1 (rounds P content).2 content ρ).2.2.1
        rest := (tamperLoop P (rounds P content).1 (rounds P content).2 content ρ).2.2.2 } := by
  unfold tamperFile rounds
  cases P.header with
  | none => rfl
  | some h =>
    simp only [tamperLoop]
    split <;> rfl

theorem tamperFile_tampered (P : Params) (content : Bytes) (ρ : List Nat) :
    Tampered P.mode content (tamperFile P content ρ).content (tamperFile P content ρ).count ∧
      (tamperFile P content ρ).count ≤ (tamperFile P content ρ).total ∧
      (tamperFile P content ρ).total ≤ (rounds P content).2 * (rounds P content).1 ∧
      (tamperFile P content ρ).total ≤ content.length := by
  rw [tamperFile_eq_loop]
  exact tamperLoop_tampered ..

/-! ### every outcome `False`: nothing is selected -/

/-- every answer of the oracle is `False` / `0` -/
def AllZero (ρ : List Nat) : Prop := ∀ x ∈ ρ, x = 0

theorem draw_allZero {ρ : List Nat} (h : AllZero ρ) : (draw ρ).1 = 0 ∧ AllZero (draw ρ).2 := by
  cases ρ with
  | nil => exact ⟨rfl, h⟩
  | cons a t => exact ⟨h a (List.mem_cons_self ..), fun x hx => h x (List.mem_cons_of_mem _ hx)⟩

theorem selectPositions_allZero (burst : Bool) (n i : Nat) (ρ : List Nat) (h : AllZero ρ) :
    (selectPositions burst n i 0 ρ).1 = [] ∧ AllZero (selectPositions burst n i 0 ρ).2 := by
  induction n generalizing i ρ with
  | zero => exact ⟨rfl, h⟩
  | succ n ih =>
    have hd := draw_allZero h
    simp only [selectPositions, Nat.lt_irrefl, gt_iff_lt, ↓reduceIte, hd.1, ne_eq,
      not_true_eq_false]
    exact ih (i + 1) (draw ρ).2 hd.2

theorem tamperBlock_allZero (P : Params) (buf : Bytes) (ρ : List Nat) (h : AllZero ρ) :
    (tamperBlock P buf ρ).1 = buf ∧ (tamperBlock P buf ρ).2.1 = 0 ∧
      AllZero (tamperBlock P buf ρ).2.2 := by
  have hd := draw_allZero h
  simp only [tamperBlock]
  split
  · simp [hd.1, hd.2]
  · have hs := selectPositions_allZero P.burst buf.length 0 ρ h
    simp [hs.1, hs.2, applyPositions]

theorem tamperLoop_allZero (P : Params) (bs fuel : Nat) (rest : Bytes) (ρ : List Nat)
    (h : AllZero ρ) :
    (tamperLoop P bs fuel rest ρ).1 = rest ∧ (tamperLoop P bs fuel rest ρ).2.1 = 0 := by
  fun_induction tamperLoop P bs fuel rest ρ with
  | case1 | case2 => exact ⟨rfl, rfl⟩
  | case3 fuel rest ρ buf _ buf' c ρ1 hb tail c2 t2 ρ2 hl ih =>
    have hblock := tamperBlock_allZero P buf ρ h
    rw [hb] at hblock
    rw [hl] at ih
    obtain ⟨rfl, rfl, hρ1⟩ := hblock
    obtain ⟨rfl, rfl⟩ := ih hρ1
    exact ⟨List.take_append_drop .., rfl⟩

end Pff.Tamper
