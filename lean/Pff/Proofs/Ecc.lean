import Pff.Model.Ecc
import Pff.Props.C10
/-! The per-file correction logic (C01, C03, C04, C13) in three layers: what `processBlock` does
to one block (`processBlock_spec`), what the loop leaves behind on any list of blocks
(`runLoop_spec`), and the result of either tool as a function of the blocks assembled
(`wholeOf`, `headerOf`). -/
namespace Pff.Ecc

open Pff.Layout

/-! ## one block -/

/-- the three ways a block is handled -/
theorem processBlock_spec (O : Ops) (fast : Bool) (mbs : Nat) (b : AsmBlock) :
    (needsRepair O fast b = false ∧ processBlock O fast mbs b = (b.msg, .intact)) ∨
    (needsRepair O fast b = true ∧ processBlock O fast mbs b = (b.msg, .failed)) ∨
    (needsRepair O fast b = true ∧ ∃ m' e', O.dec b.k b.msg b.ecc = some (m', e') ∧
        (O.H m' = b.hash ∨ (O.chk b.k m' e' = true ∧ eccComplete mbs b = true)) ∧
        processBlock O fast mbs b = (m', .repaired)) := by
  unfold processBlock
  cases hn : needsRepair O fast b with
  | false => exact Or.inl ⟨rfl, rfl⟩
  | true =>
    rw [if_pos rfl]
    cases hd : O.dec b.k b.msg b.ecc with
    | none => exact Or.inr (Or.inl ⟨rfl, rfl⟩)
    | some p =>
      by_cases hc : (decide (O.H p.1 = b.hash) || (O.chk b.k p.1 p.2 && eccComplete mbs b)) = true
      · refine Or.inr (Or.inr ⟨rfl, p.1, p.2, rfl, ?_, if_pos hc⟩)
        simpa only [Bool.or_eq_true, Bool.and_eq_true, decide_eq_true_eq] using hc
      · exact Or.inr (Or.inl ⟨rfl, if_neg hc⟩)

theorem processBlock_cases (O : Ops) (fast : Bool) (mbs : Nat) (b : AsmBlock) :
    processBlock O fast mbs b = (b.msg, .intact) ∨ processBlock O fast mbs b = (b.msg, .failed) ∨
      ∃ m' e', O.dec b.k b.msg b.ecc = some (m', e') ∧
        (O.H m' = b.hash ∨ (O.chk b.k m' e' = true ∧ eccComplete mbs b = true)) ∧
        processBlock O fast mbs b = (m', .repaired) := by
  rcases processBlock_spec O fast mbs b with ⟨_, h⟩ | ⟨_, h⟩ | ⟨_, h⟩
  · exact Or.inl h
  · exact Or.inr (Or.inl h)
  · exact Or.inr (Or.inr h)

theorem processBlock_length (O : Ops)
    (hlen : ∀ k m e m' e', O.dec k m e = some (m', e') → m'.length = m.length)
    (fast : Bool) (mbs : Nat) (b : AsmBlock) : (processBlock O fast mbs b).1.length = b.msg.length := by
  rcases processBlock_spec O fast mbs b with ⟨_, h⟩ | ⟨_, h⟩ | ⟨_, m', e', hd, _, h⟩
  · rw [h]
  · rw [h]
  · rw [h]; exact hlen _ _ _ _ _ hd

/-! ## the loop -/

/-- `runLoop` from an arbitrary state and starting block number -/
def runFrom (O : Ops) (fast : Bool) (mbs thr : Nat) (s : LoopSt) (n : Nat) (l : List AsmBlock) : LoopSt :=
  (l.zipIdx n).foldl (fun s bi => loopStep O fast mbs thr s bi.2 bi.1) s

theorem runLoop_eq_runFrom (O : Ops) (fast : Bool) (mbs thr : Nat) (l : List AsmBlock) :
    runLoop O fast mbs thr l = runFrom O fast mbs thr { written := [] } 0 l := rfl

theorem runFrom_nil (O : Ops) (fast : Bool) (mbs thr : Nat) (s : LoopSt) (n : Nat) :
    runFrom O fast mbs thr s n [] = s := rfl

theorem runFrom_cons (O : Ops) (fast : Bool) (mbs thr : Nat) (s : LoopSt) (n : Nat) (b : AsmBlock)
    (l : List AsmBlock) :
    runFrom O fast mbs thr s n (b :: l) = runFrom O fast mbs thr (loopStep O fast mbs thr s n b) (n + 1) l := by
  simp only [runFrom, List.zipIdx_cons, List.foldl_cons]

theorem runFrom_append (O : Ops) (fast : Bool) (mbs thr : Nat) (s : LoopSt) (n : Nat)
    (l1 l2 : List AsmBlock) :
    runFrom O fast mbs thr s n (l1 ++ l2) =
      runFrom O fast mbs thr (runFrom O fast mbs thr s n l1) (n + l1.length) l2 := by
  simp only [runFrom, List.zipIdx_append, List.foldl_append]

theorem runFrom_stopped (O : Ops) (fast : Bool) (mbs thr : Nat) (s : LoopSt) (h : s.stopped = true) :
    ∀ (l : List AsmBlock) (n : Nat), runFrom O fast mbs thr s n l = s := by
  intro l
  induction l with
  | nil => intro n; rfl
  | cons b l ih =>
    intro n
    rw [runFrom_cons, loopStep, if_pos h]
    exact ih (n + 1)

/-- one iteration, when the loop has not bailed out: the block is written as `processBlock` has
it, each flag records its own status, and only a failure makes the loop bail out -/
theorem loopStep_running (O : Ops) (fast : Bool) (mbs thr : Nat) (s : LoopSt) (i : Nat) (b : AsmBlock)
    (h : ¬ s.stopped = true) :
    (loopStep O fast mbs thr s i b).written = s.written ++ [(processBlock O fast mbs b).1] ∧
    (loopStep O fast mbs thr s i b).anyRepair = (s.anyRepair || needsRepair O fast b) ∧
    (loopStep O fast mbs thr s i b).repairedOne =
      (s.repairedOne || decide ((processBlock O fast mbs b).2 = .repaired)) ∧
    (loopStep O fast mbs thr s i b).partialFail =
      (s.partialFail || decide ((processBlock O fast mbs b).2 = .failed)) ∧
    ((loopStep O fast mbs thr s i b).stopped = true → (processBlock O fast mbs b).2 = .failed) := by
  unfold loopStep
  rw [if_neg h]
  rcases processBlock_spec O fast mbs b with ⟨hn, hp⟩ | ⟨hn, hp⟩ | ⟨hn, _, _, _, _, hp⟩
  · simp only [hp, h, hn, Bool.or_false, reduceCtorEq, decide_false, imp_self, and_self]
  · simp only [hp, hn, Bool.or_true, reduceCtorEq, decide_false, Bool.or_false, decide_true,
      implies_true, and_self]
  · simp only [hp, h, hn, Bool.or_true, decide_true, reduceCtorEq, decide_false, Bool.or_false,
      imp_self, and_self]

/-- The state after the loop.  `m` blocks were processed and written in order; each flag is its
start value or the matching status among these `m` blocks; the loop went through all the blocks
unless it bailed out, and a bail-out leaves a partial failure behind. -/
theorem runFrom_spec (O : Ops) (fast : Bool) (mbs thr : Nat) :
    ∀ (l : List AsmBlock) (s : LoopSt) (n : Nat),
      ∃ m, m ≤ l.length ∧
        (runFrom O fast mbs thr s n l).written =
          s.written ++ (l.take m).map (fun b => (processBlock O fast mbs b).1) ∧
        (runFrom O fast mbs thr s n l).anyRepair =
          (s.anyRepair || (l.take m).any (needsRepair O fast)) ∧
        (runFrom O fast mbs thr s n l).repairedOne =
          (s.repairedOne || (l.take m).any (fun b => decide ((processBlock O fast mbs b).2 = .repaired))) ∧
        (runFrom O fast mbs thr s n l).partialFail =
          (s.partialFail || (l.take m).any (fun b => decide ((processBlock O fast mbs b).2 = .failed))) ∧
        (m = l.length ∨ (runFrom O fast mbs thr s n l).stopped = true) ∧
        ((runFrom O fast mbs thr s n l).stopped = true →
          s.stopped = true ∨ (runFrom O fast mbs thr s n l).partialFail = true) := by
  intro l
  induction l with
  | nil =>
    intro s n
    exact ⟨0, Nat.le_refl _, (List.append_nil _).symm, (Bool.or_false _).symm, (Bool.or_false _).symm,
      (Bool.or_false _).symm, Or.inl rfl, Or.inl⟩
  | cons b l ih =>
    intro s n
    by_cases hs : s.stopped = true
    · rw [runFrom_stopped O fast mbs thr s hs]
      exact ⟨0, Nat.zero_le _, (List.append_nil _).symm, (Bool.or_false _).symm,
        (Bool.or_false _).symm, (Bool.or_false _).symm, Or.inr hs, Or.inl⟩
    · rw [runFrom_cons]
      obtain ⟨m, hm, hw, ha, hr, hp, hall, hst⟩ := ih (loopStep O fast mbs thr s n b) (n + 1)
      obtain ⟨w1, a1, r1, p1, st1⟩ := loopStep_running O fast mbs thr s n b hs
      refine ⟨m + 1, Nat.succ_le_succ hm, ?_, ?_, ?_, ?_, ?_, ?_⟩
      · rw [hw, w1, List.append_assoc]; rfl
      · rw [ha, a1, Bool.or_assoc]; rfl
      · rw [hr, r1, Bool.or_assoc]; rfl
      · rw [hp, p1, Bool.or_assoc]; rfl
      · exact hall.imp (congrArg (· + 1)) id
      · intro h
        rcases hst h with h' | h'
        · -- the bail-out happened at `b`, which therefore failed
          right
          rw [hp, p1, st1 h', decide_eq_true rfl, Bool.or_true, Bool.true_or]
        · exact Or.inr h'

/-- What `runLoop` leaves behind (`s`) on the blocks `l`: the first `s.written.length` blocks were
processed, all of them unless the loop bailed out, and then a partial failure is recorded; each
was written as `processBlock` has it; the flags say whether one of them needed repair, was
repaired, failed. -/
structure LoopSpec (O : Ops) (fast : Bool) (mbs : Nat) (l : List AsmBlock) (s : LoopSt) : Prop where
  length_le : s.written.length ≤ l.length
  written : s.written = (l.take s.written.length).map (fun b => (processBlock O fast mbs b).1)
  anyRepair : s.anyRepair = (l.take s.written.length).any (needsRepair O fast)
  repairedOne : s.repairedOne =
    (l.take s.written.length).any (fun b => decide ((processBlock O fast mbs b).2 = .repaired))
  partialFail : s.partialFail =
    (l.take s.written.length).any (fun b => decide ((processBlock O fast mbs b).2 = .failed))
  early : s.written.length < l.length → s.stopped = true ∧ s.partialFail = true

theorem runLoop_spec (O : Ops) (fast : Bool) (mbs thr : Nat) (l : List AsmBlock) :
    LoopSpec O fast mbs l (runLoop O fast mbs thr l) := by
  obtain ⟨m, hm, hw, ha, hr, hp, hall, hst⟩ := runFrom_spec O fast mbs thr l { written := [] } 0
  rw [← runLoop_eq_runFrom] at hw ha hr hp hall hst
  rw [List.nil_append] at hw
  rw [Bool.false_or] at ha hr hp
  have hl : (runLoop O fast mbs thr l).written.length = m := by
    rw [hw, List.length_map, List.length_take, Nat.min_eq_left hm]
  refine ⟨hl ▸ hm, hl.symm ▸ hw, hl.symm ▸ ha, hl.symm ▸ hr, hl.symm ▸ hp, fun hlt => ?_⟩
  have hs := hall.resolve_left (by omega)
  exact ⟨hs, (hst hs).resolve_left Bool.false_ne_true⟩

theorem runLoop_written_length_le (O : Ops) (fast : Bool) (mbs thr : Nat) (l : List AsmBlock) :
    (runLoop O fast mbs thr l).written.length ≤ l.length :=
  (runLoop_spec O fast mbs thr l).length_le

theorem runLoop_written_getElem? (O : Ops) (fast : Bool) (mbs thr : Nat) (l : List AsmBlock) (i : Nat)
    (hi : i < (runLoop O fast mbs thr l).written.length) :
    ∃ b, l[i]? = some b ∧ (runLoop O fast mbs thr l).written[i]? = some (processBlock O fast mbs b).1 := by
  have hs := runLoop_spec O fast mbs thr l
  have hil : i < l.length := Nat.lt_of_lt_of_le hi hs.length_le
  refine ⟨l[i], List.getElem?_eq_getElem hil, ?_⟩
  rw [hs.written, List.getElem?_map, List.getElem?_take_of_lt hi, List.getElem?_eq_getElem hil]
  rfl

/-- the loop stops early only after a failure, so it has seen a block in need of repair iff there
is one -/
theorem runLoop_anyRepair (O : Ops) (fast : Bool) (mbs thr : Nat) (l : List AsmBlock) :
    (runLoop O fast mbs thr l).anyRepair = l.any (needsRepair O fast) := by
  have hs := runLoop_spec O fast mbs thr l
  by_cases hlt : (runLoop O fast mbs thr l).written.length < l.length
  · have hf := (hs.early hlt).2
    rw [hs.partialFail, List.any_eq_true] at hf
    obtain ⟨b, hb, hbf⟩ := hf
    have hn : needsRepair O fast b = true := by
      rcases processBlock_spec O fast mbs b with ⟨_, h⟩ | ⟨hn, _⟩ | ⟨hn, _⟩
      · rw [h] at hbf; cases hbf
      · exact hn
      · exact hn
    rw [hs.anyRepair, List.any_eq_true.mpr ⟨b, hb, hn⟩,
      List.any_eq_true.mpr ⟨b, List.mem_of_mem_take hb, hn⟩]
  · rw [hs.anyRepair, List.take_of_length_le (Nat.le_of_not_lt hlt)]

/-- no partial failure: every block was processed, none failed, and what was written is
`processBlock` of each block -/
theorem runLoop_no_partialFail (O : Ops) (fast : Bool) (mbs thr : Nat) (l : List AsmBlock)
    (h : (runLoop O fast mbs thr l).partialFail = false) :
    (runLoop O fast mbs thr l).written = l.map (fun b => (processBlock O fast mbs b).1) ∧
    (runLoop O fast mbs thr l).repairedOne =
      l.any (fun b => decide ((processBlock O fast mbs b).2 = .repaired)) ∧
    ∀ b ∈ l, (processBlock O fast mbs b).2 ≠ .failed := by
  have hs := runLoop_spec O fast mbs thr l
  have hall : l.take (runLoop O fast mbs thr l).written.length = l := by
    apply List.take_of_length_le
    apply Nat.le_of_not_lt
    intro hlt
    rw [(hs.early hlt).2] at h
    cases h
  have hw := hs.written
  have hr := hs.repairedOne
  have hp := hs.partialFail
  rw [hall] at hw hr hp
  refine ⟨hw, hr, fun b hb hf => ?_⟩
  rw [h] at hp
  exact List.any_eq_false.mp hp.symm b hb (by simpa only [decide_eq_true_eq] using hf)

/-- conversely, if no block fails there is no partial failure -/
theorem runLoop_partialFail_of_none_failed (O : Ops) (fast : Bool) (mbs thr : Nat) (l : List AsmBlock)
    (h : ∀ b ∈ l, (processBlock O fast mbs b).2 ≠ .failed) :
    (runLoop O fast mbs thr l).partialFail = false := by
  rw [(runLoop_spec O fast mbs thr l).partialFail, List.any_eq_false]
  intro b hb
  simpa only [decide_eq_true_eq] using h b (List.mem_of_mem_take hb)

theorem runLoop_take (O : Ops) (fast : Bool) (mbs thr : Nat) (l : List AsmBlock) (j : Nat) :
    (runLoop O fast mbs thr l).written.take j = (runLoop O fast mbs thr (l.take j)).written.take j := by
  by_cases hj : l.length ≤ j
  · rw [List.take_of_length_le hj]
  · have hsplit : runLoop O fast mbs thr l =
        runFrom O fast mbs thr (runLoop O fast mbs thr (l.take j)) (0 + (l.take j).length) (l.drop j) := by
      rw [runLoop_eq_runFrom, runLoop_eq_runFrom, ← runFrom_append, List.take_append_drop]
    have hs := runLoop_spec O fast mbs thr (l.take j)
    have hm := hs.length_le
    by_cases hlt : (runLoop O fast mbs thr (l.take j)).written.length < (l.take j).length
    · rw [hsplit, runFrom_stopped O fast mbs thr _ (hs.early hlt).1]
    · obtain ⟨m2, _, hw2, _⟩ :=
        runFrom_spec O fast mbs thr (l.drop j) (runLoop O fast mbs thr (l.take j)) (0 + (l.take j).length)
      rw [List.length_take] at hm hlt
      rw [hsplit, hw2, List.take_append_of_le_length (by omega)]

/-! ## the two tools as functions of the blocks assembled -/

/-- `correctWholeFile` once the blocks are assembled -/
def wholeOf (O : Ops) (fast : Bool) (thr mbs : Nat) (content : Bytes) (blocks : List AsmBlock) :
    FileResult :=
  if blocks.any (needsRepair O fast) then
    if (runLoop O fast mbs thr blocks).repairedOne then
      { output := some ((runLoop O fast mbs thr blocks).written.flatten ++
          content.drop (runLoop O fast mbs thr blocks).written.flatten.length),
        corrupted := true, complete := !(runLoop O fast mbs thr blocks).partialFail,
        partialRep := (runLoop O fast mbs thr blocks).partialFail }
    else { output := none, corrupted := true, complete := false, partialRep := false }
  else { output := none, corrupted := false, complete := false, partialRep := false }

/-- `correctHeaderFile` once the blocks are assembled -/
def headerOf (O : Ops) (fast : Bool) (thr mbs : Nat) (content : Bytes) (blocks : List AsmBlock) :
    FileResult :=
  if (runLoop O fast mbs thr blocks).anyRepair then
    { output := some (((runLoop O fast mbs thr blocks).written ++
          (blocks.drop (runLoop O fast mbs thr blocks).written.length).map (·.msg)).flatten ++
        content.drop ((blocks.map (·.msg)).flatten).length),
      corrupted := true, complete := !(runLoop O fast mbs thr blocks).partialFail,
      partialRep := (runLoop O fast mbs thr blocks).partialFail }
  else { output := none, corrupted := false, complete := false, partialRep := false }

theorem correctWholeFile_eq (O : Ops) (fast : Bool) (thr : Nat) (kOf : Nat → Nat)
    (hashLen mbs : Nat) (content track : Bytes) :
    correctWholeFile O fast thr kOf hashLen mbs content track =
      wholeOf O fast thr mbs content (assemble kOf hashLen mbs content track (content.length + 1) 0 0) :=
  rfl

theorem correctHeaderFile_eq (O : Ops) (fast : Bool) (thr k hashLen mbs readLen : Nat)
    (content track : Bytes) :
    correctHeaderFile O fast thr k hashLen mbs readLen content track =
      headerOf O fast thr mbs content
        (assembleHeader k hashLen mbs readLen content track (content.length + 1) 0 0) :=
  rfl

/-- what the whole-file tool writes, when it writes something; it writes only after a repair -/
theorem wholeOf_output (O : Ops) (fast : Bool) (thr mbs : Nat) (content : Bytes)
    (blocks : List AsmBlock) (out : Bytes)
    (h : (wholeOf O fast thr mbs content blocks).output = some out) :
    out = (runLoop O fast mbs thr blocks).written.flatten ++
        content.drop (runLoop O fast mbs thr blocks).written.flatten.length ∧
    (wholeOf O fast thr mbs content blocks).corrupted = true ∧
    (wholeOf O fast thr mbs content blocks).complete = !(runLoop O fast mbs thr blocks).partialFail := by
  unfold wholeOf at h ⊢
  split at h
  · next h1 =>
    split at h
    · next h2 =>
      rw [if_pos h1, if_pos h2]
      exact ⟨(Option.some.inj h).symm, rfl, rfl⟩
    · cases h
  · cases h

/-- what the header tool writes, when it writes something -/
theorem headerOf_output (O : Ops) (fast : Bool) (thr mbs : Nat) (content : Bytes)
    (blocks : List AsmBlock) (out : Bytes)
    (h : (headerOf O fast thr mbs content blocks).output = some out) :
    out = ((runLoop O fast mbs thr blocks).written ++
          (blocks.drop (runLoop O fast mbs thr blocks).written.length).map (·.msg)).flatten ++
        content.drop ((blocks.map (·.msg)).flatten).length ∧
    (headerOf O fast thr mbs content blocks).corrupted = true ∧
    (headerOf O fast thr mbs content blocks).complete = !(runLoop O fast mbs thr blocks).partialFail := by
  unfold headerOf at h ⊢
  split at h
  · next h1 =>
    rw [if_pos h1]
    exact ⟨(Option.some.inj h).symm, rfl, rfl⟩
  · cases h

theorem correctHeaderFile_output (O : Ops) (fast : Bool) (thr k hashLen mbs readLen : Nat)
    (content track out : Bytes)
    (h : (correctHeaderFile O fast thr k hashLen mbs readLen content track).output = some out) :
    out =
      ((runLoop O fast mbs thr
            (assembleHeader k hashLen mbs readLen content track (content.length + 1) 0 0)).written ++
          ((assembleHeader k hashLen mbs readLen content track (content.length + 1) 0 0).drop
            (runLoop O fast mbs thr
              (assembleHeader k hashLen mbs readLen content track (content.length + 1) 0 0)).written.length).map
            (·.msg)).flatten ++
        content.drop
          (((assembleHeader k hashLen mbs readLen content track (content.length + 1) 0 0).map
            (·.msg)).flatten).length :=
  (headerOf_output O fast thr mbs content _ out h).1

/-! ## lengths -/

theorem flatten_length_take_le {α : Type} (l : List α) (f : α → Bytes) (m : Nat) :
    ((l.take m).map f).flatten.length ≤ (l.map f).flatten.length := by
  have h : (l.map f).flatten = ((l.take m).map f).flatten ++ ((l.drop m).map f).flatten := by
    rw [← List.flatten_append, ← List.map_append, List.take_append_drop]
  rw [h, List.length_append]
  omega

/-- what the loop wrote is as long as the blocks it replaced -/
theorem written_flatten_length (O : Ops)
    (hlen : ∀ k m e m' e', O.dec k m e = some (m', e') → m'.length = m.length)
    (fast : Bool) (mbs thr : Nat) (blocks : List AsmBlock) :
    (runLoop O fast mbs thr blocks).written.flatten.length =
      (((blocks.take (runLoop O fast mbs thr blocks).written.length).map (·.msg)).flatten).length := by
  conv => lhs; rw [(runLoop_spec O fast mbs thr blocks).written]
  simp only [List.length_flatten, List.map_map]
  congr 1
  exact List.map_congr_left (fun b _ => processBlock_length O hlen fast mbs b)

theorem header_body_length (O : Ops)
    (hlen : ∀ k m e m' e', O.dec k m e = some (m', e') → m'.length = m.length)
    (fast : Bool) (mbs thr : Nat) (blocks : List AsmBlock) :
    ((runLoop O fast mbs thr blocks).written ++
        (blocks.drop (runLoop O fast mbs thr blocks).written.length).map (·.msg)).flatten.length =
      ((blocks.map (·.msg)).flatten).length := by
  rw [List.flatten_append, List.length_append, written_flatten_length O hlen,
    ← List.length_append, ← List.flatten_append, ← List.map_append, List.take_append_drop]

theorem whole_body_length_le (O : Ops)
    (hlen : ∀ k m e m' e', O.dec k m e = some (m', e') → m'.length = m.length)
    (fast : Bool) (mbs thr : Nat) (blocks : List AsmBlock) :
    (runLoop O fast mbs thr blocks).written.flatten.length ≤ ((blocks.map (·.msg)).flatten).length := by
  rw [written_flatten_length O hlen]
  exact flatten_length_take_le blocks (·.msg) _

/-- Either tool, on any blocks whose messages fit in the file: the output has the length of the
input, since every block is replaced by one of its own length and the rest is copied. -/
theorem wholeOf_length (O : Ops)
    (hlen : ∀ k m e m' e', O.dec k m e = some (m', e') → m'.length = m.length)
    (fast : Bool) (thr mbs : Nat) (content : Bytes) (blocks : List AsmBlock)
    (hfit : ((blocks.map (·.msg)).flatten).length ≤ content.length) (out : Bytes)
    (h : (wholeOf O fast thr mbs content blocks).output = some out) : out.length = content.length := by
  rw [(wholeOf_output O fast thr mbs content blocks out h).1, List.length_append, List.length_drop]
  have := whole_body_length_le O hlen fast mbs thr blocks
  omega

theorem headerOf_length (O : Ops)
    (hlen : ∀ k m e m' e', O.dec k m e = some (m', e') → m'.length = m.length)
    (fast : Bool) (thr mbs : Nat) (content : Bytes) (blocks : List AsmBlock)
    (hfit : ((blocks.map (·.msg)).flatten).length ≤ content.length) (out : Bytes)
    (h : (headerOf O fast thr mbs content blocks).output = some out) : out.length = content.length := by
  rw [(headerOf_output O fast thr mbs content blocks out h).1, List.length_append,
    header_body_length O hlen fast mbs thr, List.length_drop]
  omega

/-! ## exit status -/

theorem exitStatus_one (rs : List FileResult)
    (hwf : ∀ r ∈ rs, r.complete = true → r.corrupted = true)
    (h : ∃ r ∈ rs, r.corrupted = true ∧ r.complete = false) : exitStatus rs = 1 := by
  -- the completely repaired files are those of the corrupted ones that are complete, and `r` is not
  have hc : rs.filter (·.complete) = (rs.filter (·.corrupted)).filter (·.complete) := by
    rw [List.filter_filter]
    apply List.filter_congr
    intro r hr
    cases hcr : r.complete with
    | false => rfl
    | true => rw [hwf r hr hcr]; rfl
  obtain ⟨r, hr, h1, h2⟩ := h
  have hlt : (rs.filter (·.complete)).length < (rs.filter (·.corrupted)).length := by
    rw [hc, List.length_filter_lt_length_iff_exists]
    exact ⟨r, List.mem_filter.mpr ⟨hr, h1⟩, by rw [h2]; exact Bool.false_ne_true⟩
  unfold exitStatus
  exact if_neg (by omega)

end Pff.Ecc
