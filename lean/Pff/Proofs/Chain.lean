import Pff.Props.RunC
import Pff.Props.Bridge
/-!
Helper lemmas for `Pff/Props/Chain.lean`, part 1:
* what `ParamsOK` needs of the facade `Ops` (`CleanOps`, `IntraOps`) for **every** per-call `k`
  (no `k ≤ n`, no bytes hypothesis);
* the structure of the blocks assembled from a file and a track of the generated length: the
  control flow of `assemble` / `assembleHeader` depends on the lengths only.
-/
namespace Pff.ChainProofs

open Pff.GF Pff.Facade Pff.Ecc Pff.Layout Pff.RSSpec Pff.Entry Pff.Bridge Pff.BridgeProofs

/-! ### the facade for every per-call `k` -/

/-- lengths and acceptance of a parity just produced, with the model's own instances, without any
side condition on `k` -/
structure CodecLen {p : Params} (c : Codec (Elt p)) : Prop where
  encLen : ∀ (msg : List (Elt p)) (k : Nat), (encode c msg k).length = c.n - effK c k
  accepts : ∀ (msg : List (Elt p)) (k : Nat), check c msg (encode c msg k) k = true

theorem codecLenA (algo n k0 : Nat) (ha : algo = 1 ∨ algo = 2 ∨ algo = 3) (hn : n ≤ 255) :
    CodecLen (codecA algo n k0) := by
  have hc := C11_codecA_good algo n k0 ha hn
  exact ⟨fun msg k => Pff.RSProofs.length_encode (codecA algo n k0) hc msg k,
    fun msg k => Pff.RSProofs.check_encode (codecA algo n k0) hc msg k⟩

theorem codecLenB (n k0 : Nat) (hn : n ≤ 255) : CodecLen (codecB n k0) := by
  have hc := C11_codecB_good n k0 hn
  exact ⟨fun msg k => Pff.RSProofs.length_encode (codecB n k0) hc msg k,
    fun msg k => Pff.RSProofs.check_encode (codecB n k0) hc msg k⟩

section Facade
variable {p : Params} (c : Codec (Elt p)) (core : Core (Elt p))

theorem enc_length (hF : CodecLen c) (H : List Nat → List Nat) (en : Bool) (sym : Nat) (oe : Bool)
    (k : Nat) (m : List Nat) (hk : 1 ≤ k) :
    ((opsOfFacade c core H en sym oe).enc k m).length = c.n - k := by
  rw [enc_irrel, length_ofElts, hF.encLen, effK_pos c k hk]

theorem chk_enc (hF : CodecLen c) (H : List Nat → List Nat) (en : Bool) (sym : Nat) (oe : Bool)
    (k : Nat) (m : List Nat) :
    (opsOfFacade c core H en sym oe).chk k m ((opsOfFacade c core H en sym oe).enc k m) = true := by
  show check c (toElts p m) (toElts p (ofElts (encode c (toElts p m) k))) k = true
  rw [toElts_ofElts]
  exact hF.accepts _ k

theorem cleanOps_facade (hF : CodecLen c) (H : List Nat → List Nat) (en : Bool) (sym : Nat) (oe : Bool)
    (hashLen : Nat) (hH : ∀ m, (H m).length = hashLen) (fast : Bool) :
    CleanOps (opsOfFacade c core H en sym oe) hashLen c.n fast :=
  ⟨hH, fun k m h1 h2 => enc_length c core hF H en sym oe k m (by omega),
    fun _ k m _ _ => chk_enc c core hF H en sym oe k m⟩

theorem intraOps_facade (hF : CodecLen c) (H : List Nat → List Nat) (en : Bool) (sym : Nat) (oe : Bool)
    (k : Nat) (hk : 1 ≤ k) (hpar : 1 ≤ c.n - k) :
    IntraOps (opsOfFacade c core H en sym oe) k c.n :=
  ⟨hk, hpar, fun m _ _ => enc_length c core hF H en sym oe k m hk,
    fun m _ _ => chk_enc c core hF H en sym oe k m⟩

end Facade

/-! ### blocks assembled from a track of the generated length -/

/-- length of the chunks `hash ++ parity` of a list of layout blocks -/
def chunkSum (hashLen mbs : Nat) (L : List Block) : Nat :=
  (L.map (fun blk => hashLen + (mbs - blk.k))).sum

/-- a complete block of the whole-file tool -/
structure WholeGeom (kOf : Nat → Nat) (mbs : Nat) (content track : List Nat) (b : AsmBlock) : Prop where
  kEq    : b.k = kOf b.off
  msgEq  : b.msg = (content.drop b.off).take b.k
  offLt  : b.off < content.length
  eccLen : b.ecc.length = mbs - b.k
  eccSub : ∀ x ∈ b.ecc, x ∈ track

theorem assemble_geom (kOf : Nat → Nat) (hashLen mbs : Nat) (content track : List Nat)
    (hk : ∀ x, 1 ≤ kOf x ∧ kOf x < mbs) :
    ∀ fuel cur e,
      track.length = e + chunkSum hashLen mbs (layoutGen kOf content.length fuel cur) →
      (∀ b ∈ assemble kOf hashLen mbs content track fuel cur e, WholeGeom kOf mbs content track b) ∧
      (content.length - cur < fuel →
        ((assemble kOf hashLen mbs content track fuel cur e).map (·.msg)).flatten = content.drop cur) := by
  intro fuel
  induction fuel with
  | zero =>
    intro cur e _
    refine ⟨fun b hb => ?_, fun h => ?_⟩
    · simp only [assemble, List.not_mem_nil] at hb
    · omega
  | succ fuel ih =>
    intro cur e hlen
    by_cases h : cur < content.length
    · have hkc := hk cur
      rw [layoutGen_cons kOf content.length fuel cur h] at hlen
      simp only [chunkSum, List.map_cons, List.sum_cons] at hlen
      have hmesLen : ((content.drop cur).take (kOf cur)).length = min (kOf cur) (content.length - cur) := by
        rw [List.length_take, List.length_drop]
      have h2 : ¬ ((content.drop cur).take (kOf cur)).isEmpty = true := by
        rw [List.isEmpty_iff_length_eq_zero, hmesLen]; omega
      have hbufLen : ((track.drop e).take (hashLen + (mbs - kOf cur))).length = hashLen + (mbs - kOf cur) := by
        rw [List.length_take, List.length_drop]; omega
      rw [assemble_cons kOf hashLen mbs content track fuel cur e (by omega) h2, hmesLen, hbufLen]
      obtain ⟨ih1, ih2⟩ := ih (cur + min (kOf cur) (content.length - cur)) (e + (hashLen + (mbs - kOf cur)))
        (by simp only [chunkSum]; omega)
      refine ⟨?_, ?_⟩
      · intro b hb
        rcases List.mem_cons.mp hb with rfl | hb
        · refine ⟨rfl, rfl, h, ?_, ?_⟩
          · simp only [List.length_drop, hbufLen]; omega
          · intro x hx
            exact List.mem_of_mem_drop (List.mem_of_mem_take (List.mem_of_mem_drop hx))
        · exact ih1 b hb
      · intro hf
        simp only [List.map_cons, List.flatten_cons]
        rw [ih2 (by omega)]
        have : (content.drop cur).take (kOf cur) = (content.drop cur).take (min (kOf cur) (content.length - cur)) := by
          rw [List.take_eq_take_iff, List.length_drop]; omega
        rw [this, ← List.drop_drop, List.take_append_drop]
    · rw [layoutGen_nil_of_ge kOf content.length _ cur (by omega)] at hlen
      simp only [chunkSum, List.map_nil, List.sum_nil, Nat.add_zero] at hlen
      rw [assemble_nil_of_ge kOf hashLen mbs content track _ cur e (by omega)]
      refine ⟨fun b hb => ?_, fun _ => ?_⟩
      · simp only [List.not_mem_nil] at hb
      · rw [List.drop_eq_nil_of_le (by omega)]; rfl

/-- a complete block of the header tool -/
structure HeaderGeom (k mbs readLen : Nat) (content track : List Nat) (b : AsmBlock) : Prop where
  kEq    : b.k = k
  msgEq  : b.msg = ((content.take readLen).drop b.off).take k
  offLt  : b.off < (content.take readLen).length
  eccLen : b.ecc.length = mbs - k
  eccSub : ∀ x ∈ b.ecc, x ∈ track

theorem assembleHeader_geom (k hashLen mbs readLen hs size : Nat) (content track : List Nat)
    (hk : 1 ≤ k ∧ k < mbs) (hhl : (content.take readLen).length = min hs size) :
    ∀ fuel i j,
      track.length = j + chunkSum hashLen mbs (layoutHeader k hs size fuel i) →
      (∀ b ∈ assembleHeader k hashLen mbs readLen content track fuel i j,
        HeaderGeom k mbs readLen content track b) ∧
      ((content.take readLen).length - i < fuel →
        ((assembleHeader k hashLen mbs readLen content track fuel i j).map (·.msg)).flatten =
          (content.take readLen).drop i) := by
  intro fuel i j hlen
  rw [layoutHeader_eq_layoutGen, ← hhl] at hlen
  rw [assembleHeader_eq_assemble k hashLen mbs readLen content track hk.1]
  obtain ⟨h1, h2⟩ := assemble_geom (fun _ => k) hashLen mbs (content.take readLen) track
    (fun _ => hk) fuel i j hlen
  refine ⟨fun b hb => ?_, h2⟩
  obtain ⟨g1, g2, g3, g4, g5⟩ := h1 b hb
  exact ⟨g1, g1 ▸ g2, g3, g1 ▸ g4, g5⟩

/-! ### length of the generated header track -/

theorem genTrackHeader_length (H : List Nat → List Nat) (enc : Nat → List Nat → List Nat) (k hs hashLen mbs : Nat)
    (hk : 1 ≤ k) (hH : ∀ m, (H m).length = hashLen)
    (henc : ∀ m, 1 ≤ m.length → m.length ≤ k → (enc k m).length = mbs - k) (content : List Nat) :
    (genTrackHeader H enc k hs content).length =
      chunkSum hashLen mbs (layoutHeader k hs content.length (content.length + 1) 0) := by
  unfold genTrackHeader chunkSum
  rw [List.length_flatten, List.map_map]
  apply Pff.Layout.sum_map_eq
  intro blk hblk
  obtain ⟨h1, h2, h3⟩ := layoutHeader_mem k hs content.length _ _ blk hblk
  have hsl := slice_length content blk
  simp only [Function.comp, List.length_append, hH]
  rw [h1, henc _ (by omega) (by omega)]

/-! ### from lengths and bytes to `WithinCapacity` -/

open Pff.Run in
theorem withinCapacity_whole (O : Ops) (P : Pff.Run.Params) (d : Damaged) (htool : P.tool = .whole)
    (hk : ∀ size x, 1 ≤ P.kOfFor size x ∧ P.kOfFor size x < P.mbs)
    (hops : CleanOps O P.hashLen P.mbs P.fast)
    (lenNow : d.now.length = d.orig.length)
    (lenTrack : d.trackD.length = (genTrackFor O P d.orig).length)
    (bo : IsBytes d.orig) (bn : IsBytes d.now) (bt : IsBytes d.trackD)
    (hblk : ∀ b ∈ assemble (P.kOfFor d.orig.length) P.hashLen P.mbs d.now d.trackD (d.now.length + 1) 0 0,
      BlockGeom P.mbs d.orig b → BlockOK O P.fast P.mbs d.orig b) :
    WithinCapacity O P d := by
  have htl : d.trackD.length = 0 + chunkSum P.hashLen P.mbs
      (layoutGen (P.kOfFor d.orig.length) d.now.length (d.now.length + 1) 0) := by
    rw [lenTrack]
    simp only [genTrackFor, htool]
    rw [Pff.Run.C.genTrack_length O.H O.enc _ P.hashLen P.mbs (fun x => (hk _ x).1) hops.hashLen hops.encLen d.orig,
      lenNow, Nat.zero_add]
    rfl
  obtain ⟨g1, g2⟩ := assemble_geom (P.kOfFor d.orig.length) P.hashLen P.mbs d.now d.trackD (hk _)
    (d.now.length + 1) 0 0 htl
  refine ⟨lenNow, lenTrack, ?_⟩
  simp only [htool]
  refine ⟨by rw [g2 (by omega)]; rfl, fun b hb => hblk b hb ?_⟩
  have g := g1 b hb
  have hkk := hk d.orig.length b.off
  have hml : b.msg.length = min b.k (d.now.length - b.off) := by
    rw [g.msgEq, List.length_take, List.length_drop]
  have hoff := g.offLt
  refine ⟨bo, ?_, fun x hx => bt x (g.eccSub x hx), ?_, ?_, ?_, ?_, ?_, g.eccLen⟩
  · intro x hx
    rw [g.msgEq] at hx
    exact bn x (List.mem_of_mem_drop (List.mem_of_mem_take hx))
  · rw [g.kEq]; exact hkk.1
  · rw [g.kEq]; omega
  · rw [hml, g.kEq]; omega
  · rw [hml]; omega
  · rw [hml]; omega

open Pff.Run in
theorem withinCapacity_header (O : Ops) (P : Pff.Run.Params) (d : Damaged) (htool : P.tool = .header)
    (hk : 1 ≤ P.kMain ∧ P.kMain < P.mbs)
    (hops : CleanOps O P.hashLen P.mbs P.fast)
    (lenNow : d.now.length = d.orig.length)
    (lenTrack : d.trackD.length = (genTrackFor O P d.orig).length)
    (bo : IsBytes d.orig) (bn : IsBytes d.now) (bt : IsBytes d.trackD)
    (hblk : ∀ b ∈ assembleHeader P.kMain P.hashLen P.mbs
        (if 0 < d.orig.length ∧ d.orig.length < P.headerSize then d.orig.length else P.headerSize)
        d.now d.trackD (d.now.length + 1) 0 0,
      BlockGeom P.mbs d.orig b → BlockOK O P.fast P.mbs d.orig b) :
    WithinCapacity O P d := by
  refine ⟨lenNow, lenTrack, ?_⟩
  simp only [htool]
  generalize hrl : (if 0 < d.orig.length ∧ d.orig.length < P.headerSize then d.orig.length else P.headerSize) = readLen
    at hblk ⊢
  have hhl : (d.now.take readLen).length = min P.headerSize d.orig.length := by
    rw [List.length_take, lenNow, ← hrl]
    split <;> omega
  have htl : d.trackD.length = 0 + chunkSum P.hashLen P.mbs
      (layoutHeader P.kMain P.headerSize d.orig.length (d.now.length + 1) 0) := by
    rw [lenTrack]
    simp only [genTrackFor, htool]
    rw [genTrackHeader_length O.H O.enc P.kMain P.headerSize P.hashLen P.mbs hk.1 hops.hashLen
      (hops.encLen P.kMain) d.orig, lenNow, Nat.zero_add]
  obtain ⟨g1, g2⟩ := assembleHeader_geom P.kMain P.hashLen P.mbs readLen P.headerSize d.orig.length
    d.now d.trackD hk hhl (d.now.length + 1) 0 0 htl
  refine ⟨by rw [g2 (by rw [List.length_take]; omega)]; rfl, fun b hb => hblk b hb ?_⟩
  have g := g1 b hb
  have hml : b.msg.length = min P.kMain ((d.now.take readLen).length - b.off) := by
    rw [g.msgEq, List.length_take, List.length_drop]
  have hoff := g.offLt
  have hle : (d.now.take readLen).length ≤ d.orig.length := by rw [hhl]; omega
  refine ⟨bo, ?_, fun x hx => bt x (g.eccSub x hx), ?_, ?_, ?_, ?_, ?_, ?_⟩
  · intro x hx
    rw [g.msgEq] at hx
    exact bn x (List.mem_of_mem_take (List.mem_of_mem_drop (List.mem_of_mem_take hx)))
  · rw [g.kEq]; exact hk.1
  · rw [g.kEq]; omega
  · rw [hml]; omega
  · rw [hml, g.kEq]; omega
  · rw [hml]; omega
  · rw [g.eccLen, g.kEq]

/-! ### the chain, generic over the byte field -/

open Pff.Run Pff.Scan

/-- the blocks the tool assembles for a damaged file (= `Pff.Chain.blocksOf`) -/
def blocksOf' (P : Pff.Run.Params) (d : Damaged) : List AsmBlock :=
  match P.tool with
  | .header =>
    let readLen := if 0 < d.orig.length ∧ d.orig.length < P.headerSize then d.orig.length else P.headerSize
    assembleHeader P.kMain P.hashLen P.mbs readLen d.now d.trackD (d.now.length + 1) 0 0
  | .whole => assemble (P.kOfFor d.orig.length) P.hashLen P.mbs d.now d.trackD (d.now.length + 1) 0 0

theorem paramsOK_facade {p : Pff.GF.Params} (c : Codec (Elt p)) (core : Core (Elt p)) (hL : CodecLen c)
    (H : List Nat → List Nat) (hashLen : Nat) (hH : ∀ m, (H m).length = hashLen)
    (P : Pff.Run.Params) (hn : c.n = P.mbs)
    (gHash : P.hashLen = hashLen) (gMain : 1 ≤ P.kMain ∧ P.kMain < P.mbs)
    (gOf : ∀ size x, 1 ≤ P.kOfFor size x ∧ P.kOfFor size x < P.mbs)
    (gIntra : 1 ≤ P.kIntra ∧ P.kIntra < P.mbs) :
    ParamsOK (opsOfFacade c core H false 0 false) P := by
  refine ⟨gMain.1, fun s x => (gOf s x).1, by omega, fun s x => by have := gOf s x; omega, ?_, ?_⟩
  · rw [gHash, ← hn]
    exact cleanOps_facade c core hL H false 0 false hashLen hH P.fast
  · rw [← hn]
    exact intraOps_facade c core hL H false 0 false P.kIntra gIntra.1 (by omega)

theorem chain_generic {p : Pff.GF.Params} (c : Codec (Elt p)) (core : Core (Elt p))
    (hL : CodecLen c) (hF : CodecFacts c) (hD : DecFacts c core)
    (H : List Nat → List Nat) (hashLen : Nat) (hH : ∀ m, (H m).length = hashLen)
    (P : Pff.Run.Params) (hn : c.n = P.mbs)
    (gHash : P.hashLen = hashLen) (gMain : 1 ≤ P.kMain ∧ P.kMain < P.mbs)
    (gOf : ∀ size x, 1 ≤ P.kOfFor size x ∧ P.kOfFor size x < P.mbs)
    (gIntra : 1 ≤ P.kIntra ∧ P.kIntra < P.mbs)
    (O : Ops) (hO : O = opsOfFacade c core H false 0 false)
    (pre : List Nat) (ds : List Damaged)
    (hfiles : ∀ d ∈ ds, FileOK O P d.path d.orig)
    (hdistinct : (ds.map (·.path)).Nodup)
    (hcap : ∀ d ∈ ds, d.now.length = d.orig.length ∧ d.trackD.length = (genTrackFor O P d.orig).length ∧
      IsBytes d.orig ∧ IsBytes d.now ∧ IsBytes d.trackD ∧
      ∀ b ∈ blocksOf' P d,
        2 * hdist (b.msg ++ b.ecc) (origMsg d.orig b ++ O.enc b.k (origMsg d.orig b)) ≤ P.mbs - b.k ∧
        (P.fast = true → O.H b.msg = b.hash → b.msg = origMsg d.orig b))
    (hacc : NoAccidental pre marker (ds.map (fun d => bodyWith O P d.path d.orig d.trackD))) :
    (run O P (ds.map (fun d => (d.path, d.now)))
        (build pre marker (ds.map (fun d => bodyWith O P d.path d.orig d.trackD)))).outcomes.length = ds.length ∧
    (∀ i (hi : i < ds.length), ∃ o,
        (run O P (ds.map (fun d => (d.path, d.now)))
          (build pre marker (ds.map (fun d => bodyWith O P d.path d.orig d.trackD)))).outcomes[i]? = some o ∧
        o.path = ds[i].path ∧ o.skipped = false ∧ o.processed = true ∧
        (protectedDamaged P ds[i] →
          o.result = { output := some (restored P ds[i]), corrupted := true, complete := true, partialRep := false } ∧
          o.effect = .wrote (restored P ds[i])) ∧
        (∀ out, o.result.output = some out → out = restored P ds[i])) ∧
    exitOf (run O P (ds.map (fun d => (d.path, d.now)))
        (build pre marker (ds.map (fun d => bodyWith O P d.path d.orig d.trackD)))) = 0 := by
  subst hO
  have hPOK := paramsOK_facade c core hL H hashLen hH P hn gHash gMain gOf gIntra
  have hblock : ∀ d ∈ ds, ∀ b ∈ blocksOf' P d, BlockGeom P.mbs d.orig b →
      BlockOK (opsOfFacade c core H false 0 false) P.fast P.mbs d.orig b := by
    intro d hd b hb hg
    obtain ⟨_, _, _, _, _, hb6⟩ := hcap d hd
    obtain ⟨hc1, hc2⟩ := hb6 b hb
    have := blockOK_errors c core hF hD H P.fast d.orig b hg.bytesOrig hg.bytesMsg hg.bytesEcc hg.kpos
      (by rw [hn]; exact hg.kle) hg.msgle hg.inside (by rw [hn]; exact hg.eccLen)
      (by rw [hn]; exact hc1) hc2
    rw [hn] at this
    exact this
  have hWC : ∀ d ∈ ds, WithinCapacity (opsOfFacade c core H false 0 false) P d := by
    intro d hd
    obtain ⟨hb1, hb2, hb3, hb4, hb5, _⟩ := hcap d hd
    cases htool : P.tool with
    | header =>
      refine withinCapacity_header _ P d htool gMain hPOK.ops hb1 hb2 hb3 hb4 hb5 (fun b hb hg => ?_)
      exact hblock d hd b (by simp only [blocksOf', htool]; exact hb) hg
    | whole =>
      refine withinCapacity_whole _ P d htool gOf hPOK.ops hb1 hb2 hb3 hb4 hb5 (fun b hb hg => ?_)
      exact hblock d hd b (by simp only [blocksOf', htool]; exact hb) hg
  have h := C01_run_within_capacity _ P pre ds hPOK hfiles hdistinct hWC hacc
  refine ⟨h.1, fun i hi => ?_, h.2.2⟩
  obtain ⟨o, ho1, ho2, ho3, ho4, ho5, ho6, _⟩ := h.2.1 i hi
  exact ⟨o, ho1, ho2, ho3, ho4, ho5, ho6⟩

end Pff.ChainProofs
