import Pff.Model.Entry
import Pff.Proofs.Scan
import Pff.Props.C10
/-! Helper lemmas for C09 (entry metadata).  Core Lean only. -/
namespace Pff.Entry.A
open Pff.Entry Pff.Ecc Pff.Layout Pff.Scan

/-! ## constants -/

theorem delim_eq : delim = [250, 255, 250, 255, 250] := rfl
theorem delim_length : delim.length = 5 := rfl
theorem marker_length : marker.length = 10 := rfl

/-! ## size text -/

theorem isDigit_iff (c : Nat) : isDigit c = true ↔ 48 ≤ c ∧ c ≤ 57 := by
  simp only [isDigit, Bool.and_eq_true, decide_eq_true_eq]

theorem isSpace_of_isDigit (c : Nat) (h : isDigit c = true) : isSpace c = false := by
  rw [isDigit_iff] at h
  simp only [isSpace, Bool.or_eq_false_iff, Bool.and_eq_false_iff, decide_eq_false_iff_not]
  omega

theorem digitsRev_digits : ∀ fuel n, ∀ c ∈ digitsRev fuel n, isDigit c = true := by
  intro fuel
  induction fuel with
  | zero => intro n c hc; simp only [digitsRev, List.not_mem_nil] at hc
  | succ fuel ih =>
    intro n c hc
    simp only [digitsRev] at hc
    split at hc
    · simp only [List.mem_singleton] at hc
      rw [isDigit_iff]; omega
    · rw [List.mem_cons] at hc
      rcases hc with rfl | hc
      · rw [isDigit_iff]; omega
      · exact ih _ c hc

theorem digitsRev_ne_nil (fuel n : Nat) : digitsRev (fuel + 1) n ≠ [] := by
  simp only [digitsRev]
  split <;> exact List.cons_ne_nil _ _

/-- value of a digit string, most significant digit first -/
def dval (acc : Nat) (ds : List Nat) : Nat := ds.foldl (fun a c => a * 10 + (c - 48)) acc

theorem digitsRev_val : ∀ fuel n, n < fuel →
    (digitsRev fuel n).foldr (fun c a => a * 10 + (c - 48)) 0 = n := by
  intro fuel
  induction fuel with
  | zero => intro n h; omega
  | succ fuel ih =>
    intro n h
    simp only [digitsRev]
    split
    · simp only [List.foldr_cons, List.foldr_nil]; omega
    · simp only [List.foldr_cons]
      rw [ih (n / 10) (by omega)]
      omega

theorem digitsVal_digits : ∀ (ds : List Nat) (prev : Bool) (acc : Nat),
    (∀ c ∈ ds, isDigit c = true) → (ds ≠ [] ∨ prev = true) →
    digitsVal ds prev acc = some (dval acc ds) := by
  intro ds
  induction ds with
  | nil =>
    intro prev acc _ h
    rcases h with h | h
    · exact absurd rfl h
    · simp only [digitsVal, h, if_true, dval, List.foldl_nil]
  | cons c cs ih =>
    intro prev acc hall _
    have hc : isDigit c = true := hall c (List.mem_cons_self ..)
    simp only [digitsVal, hc, if_true]
    rw [ih true _ (fun x hx => hall x (List.mem_cons_of_mem _ hx)) (Or.inr rfl)]
    simp only [dval, List.foldl_cons]

theorem dropWhile_isSpace_digits (l : List Nat) (hall : ∀ c ∈ l, isDigit c = true) :
    l.dropWhile isSpace = l := by
  cases l with
  | nil => rfl
  | cons c cs =>
    rw [List.dropWhile_cons, isSpace_of_isDigit c (hall c (List.mem_cons_self ..))]
    simp only [Bool.false_eq_true, if_false]

theorem pyInt_digits (l : List Nat) (hne : l ≠ []) (hall : ∀ c ∈ l, isDigit c = true) :
    pyInt l = some ((dval 0 l : Nat) : Int) := by
  have h1 : l.dropWhile isSpace = l := dropWhile_isSpace_digits l hall
  have h2 : l.reverse.dropWhile isSpace = l.reverse :=
    dropWhile_isSpace_digits _ (fun c hc => hall c (List.mem_reverse.mp hc))
  have hv := digitsVal_digits l false 0 hall (Or.inl hne)
  simp only [pyInt, h1, h2, List.reverse_reverse]
  cases l with
  | nil => exact absurd rfl hne
  | cons c cs =>
    have hc := (isDigit_iff c).mp (hall c (List.mem_cons_self ..))
    have h45 : ¬ c = 45 := by omega
    have h43 : ¬ c = 43 := by omega
    simp only [h45, h43, if_false, hv]
    rfl

theorem digitsOf_ne_nil (n : Nat) : digitsOf n ≠ [] := by
  simp only [digitsOf, ne_eq, List.reverse_eq_nil_iff]
  exact digitsRev_ne_nil n n

theorem digitsOf_digits (n : Nat) : ∀ c ∈ digitsOf n, isDigit c = true := by
  intro c hc
  simp only [digitsOf, List.mem_reverse] at hc
  exact digitsRev_digits _ _ c hc

theorem dval_digitsOf (n : Nat) : dval 0 (digitsOf n) = n := by
  simp only [dval, digitsOf, List.foldl_reverse]
  exact digitsRev_val (n + 1) n (by omega)

/-! ## `find` and the field splitting -/

theorem delim_pos : 0 < delim.length := by decide

/-! ## occurrences and `find` in concatenations -/

variable {sub x s : Bytes} {i n : Nat}

/-- whether `sub` occurs at `i` is decided by any prefix of the buffer that contains the place -/
theorem occ_append (hm : 0 < sub.length) :
    Occ sub x i ↔ Occ sub (x ++ s) i ∧ i + sub.length ≤ x.length := by
  have := occ_window (stream := x ++ s) (p := 0) (bs := x.length) (i := i) hm
  rwa [List.drop_zero, List.take_left, Nat.zero_add] at this

theorem occ_append_add : Occ sub (x ++ s) (x.length + i) ↔ Occ sub s i := by
  rw [Occ, ← List.drop_drop, List.drop_left]

/-- Python: `(x + s).find(sub, len(x) + n) == len(x) + s.find(sub, n)` -/
theorem find_append_add (hm : 0 < sub.length) (x s : Bytes) (n : Nat) :
    find sub (x ++ s) (x.length + n) = (find sub s n).map (x.length + ·) := by
  cases h : find sub s n with
  | none =>
    rw [find_eq_none_iff hm] at h
    rw [Option.map_none, find_eq_none_iff hm]
    intro j hj hocc
    obtain ⟨j', rfl⟩ := Nat.exists_eq_add_of_le (Nat.le_trans (Nat.le_add_right _ _) hj)
    exact h j' (by omega) (occ_append_add.1 hocc)
  | some i =>
    rw [find_eq_some_iff hm] at h
    rw [Option.map_some, find_eq_some_iff hm]
    refine ⟨occ_append_add.2 h.1, by omega, fun j hj hocc => ?_⟩
    obtain ⟨j', rfl⟩ := Nat.exists_eq_add_of_le (Nat.le_trans (Nat.le_add_right _ _) hj)
    have := h.2.2 j' (by omega) (occ_append_add.1 hocc)
    omega

theorem find_append_length (hm : 0 < sub.length) (x s : Bytes) :
    find sub (x ++ s) x.length = (find sub s 0).map (x.length + ·) :=
  find_append_add hm x s 0

/-- a field `f` that spells no `sub` even when followed by one: the first `sub` in
`f ++ sub ++ rest` is the one after `f` -/
theorem find_field (hm : 0 < sub.length) (f rest : Bytes)
    (hf : ∀ i, i < f.length → ¬ Occ sub (f ++ sub) i) :
    find sub (f ++ (sub ++ rest)) 0 = some f.length := by
  rw [find_eq_some_iff hm]
  refine ⟨?_, Nat.zero_le _, fun j _ hocc => Nat.le_of_not_lt fun hlt => hf j hlt ?_⟩
  · rw [Occ, List.drop_left, List.isPrefixOf_iff_prefix]
    exact List.prefix_append _ _
  · rw [← List.append_assoc] at hocc
    exact (occ_append hm).2 ⟨hocc, by rw [List.length_append]; omega⟩

/-! ## Python conventions on natural arguments -/

theorem pyFind_natCast (sub s : Bytes) (n : Nat) :
    pyFind sub s (n : Int) = match find sub s n with | some i => (i : Int) | none => -1 := by
  simp only [pyFind, Int.toNat_natCast, if_neg (Int.not_lt.2 (Int.natCast_nonneg n))]
  rfl

theorem pyBound_natCast (len n : Nat) : pyBound len (n : Int) = min n len := by
  simp only [pyBound, Int.toNat_natCast, if_neg (Int.not_lt.2 (Int.natCast_nonneg n))]

theorem pySlice_natCast (s : Bytes) (a b : Nat) (hb : b ≤ s.length) :
    pySlice s (a : Int) (b : Int) = (s.drop a).take (b - a) := by
  simp only [pySlice, pyBound_natCast, Nat.min_eq_left hb]
  by_cases h : a ≤ s.length
  · rw [Nat.min_eq_left h]
  · rw [List.drop_eq_nil_of_le (by omega), List.drop_eq_nil_of_le (by omega), List.take_nil, List.take_nil]

theorem pyFrom_natCast (s : Bytes) (a : Nat) : pyFrom s (a : Int) = s.drop a := by
  simp only [pyFrom, pyBound_natCast]
  by_cases h : a ≤ s.length
  · rw [Nat.min_eq_left h]
  · rw [List.drop_eq_nil_of_le (by omega), List.drop_eq_nil_of_le (by omega)]

/-! ## field splitting -/

theorem stripDelims_of_not_prefix (fuel : Nat) (e : Bytes) (h : ¬ Occ delim e 0) :
    stripDelims fuel e = e := by
  cases fuel with
  | zero => rfl
  | succ fuel =>
    rw [Occ, List.drop_zero] at h
    simp only [stripDelims, h, Bool.false_and, Bool.false_eq_true, if_false]

theorem find_le {sub s : Bytes} {n i : Nat} (hm : 0 < sub.length) (h : find sub s n = some i) :
    i ≤ s.length := by
  have := ((find_eq_some_iff hm).1 h).1.le hm
  omega

/-- `entry_fields` when the four delimiters are found, in natural-number terms: all of Python's
`-1` and negative-index conventions are out of play -/
theorem entryFields_of_finds (e : Bytes) (a b c d : Nat) (h0 : ¬ Occ delim e 0)
    (h1 : find delim e 0 = some a) (h2 : find delim e (a + delim.length) = some b)
    (h3 : find delim e (b + delim.length) = some c) (h4 : find delim e (c + delim.length) = some d) :
    entryFields e =
      { path := e.take a,
        sizeRaw := (e.drop (a + delim.length)).take (b - (a + delim.length)),
        pathEcc := (e.drop (b + delim.length)).take (c - (b + delim.length)),
        sizeEcc := (e.drop (c + delim.length)).take (d - (c + delim.length)),
        trackOff := ((d + delim.length : Nat) : Int), stripped := 0 } := by
  have hz : (0 : Int) = ((0 : Nat) : Int) := rfl
  have hm := delim_pos
  simp only [entryFields, stripDelims_of_not_prefix _ e h0, hz, ← Int.natCast_add, pyFind_natCast,
    h1, h2, h3, h4, pySlice_natCast _ _ _ (find_le hm h1), pySlice_natCast _ _ _ (find_le hm h2),
    pySlice_natCast _ _ _ (find_le hm h3), pySlice_natCast _ _ _ (find_le hm h4), Nat.sub_self,
    Nat.sub_zero, List.drop_zero]
  have hn : ¬ ((a : Int) < (0 : Nat) ∨ (b : Int) < (0 : Nat) ∨ (c : Int) < (0 : Nat) ∨ (d : Int) < (0 : Nat)) := by
    omega
  rw [if_neg hn]

/-- the generated entry splits into its fields -/
theorem entryFields_gen (path sizeTxt pathEcc sizeEcc track : Bytes) (hp : path ≠ [])
    (c1 : ∀ i, i < path.length → ¬ Occ delim (path ++ delim) i)
    (c2 : ∀ i, i < sizeTxt.length → ¬ Occ delim (sizeTxt ++ delim) i)
    (c3 : ∀ i, i < pathEcc.length → ¬ Occ delim (pathEcc ++ delim) i)
    (c4 : ∀ i, i < sizeEcc.length → ¬ Occ delim (sizeEcc ++ delim) i) :
    entryFields (path ++ delim ++ sizeTxt ++ delim ++ pathEcc ++ delim ++ sizeEcc ++ delim ++ track) =
      { path := path, sizeRaw := sizeTxt, pathEcc := pathEcc, sizeEcc := sizeEcc,
        trackOff := ((path.length + delim.length + sizeTxt.length + delim.length + pathEcc.length
                      + delim.length + sizeEcc.length + delim.length : Nat) : Int),
        stripped := 0 } := by
  have hm := delim_pos
  have h0 : ¬ Occ delim (path ++ (delim ++ (sizeTxt ++ (delim ++ (pathEcc ++ (delim ++ (sizeEcc ++ (delim ++ track)))))))) 0 := by
    intro h
    rw [← List.append_assoc] at h
    exact c1 0 (List.length_pos_iff.2 hp) ((occ_append hm).2 ⟨h, by rw [List.length_append]; omega⟩)
  simp only [List.append_assoc]
  rw [entryFields_of_finds _ path.length (path.length + (delim.length + sizeTxt.length))
    (path.length + (delim.length + (sizeTxt.length + (delim.length + pathEcc.length))))
    (path.length + (delim.length + (sizeTxt.length + (delim.length + (pathEcc.length + (delim.length + sizeEcc.length))))))
    h0 (find_field hm _ _ c1)
    (by simp only [find_append_add hm, find_append_length hm, find_field hm _ _ c2, Option.map_some])
    (by simp only [Nat.add_assoc, find_append_add hm, find_append_length hm, find_field hm _ _ c3, Option.map_some])
    (by simp only [Nat.add_assoc, find_append_add hm, find_append_length hm, find_field hm _ _ c4, Option.map_some])]
  simp only [Nat.add_assoc, List.drop_length_add_append, List.drop_left, List.take_left,
    Nat.add_sub_add_left, Nat.add_sub_cancel_left]

/-! ## intra-ecc: the fold over the blocks -/

/-- the fold of `ecc_correct_intra(_stream)` over blocks that are each intact or repairable
(`IntraBlockOK`): the original bytes come out, "corrupted" says whether some block failed its
check, and "corrected" is never cleared -/
theorem fold_intra (O : Ops) (k : Nat) (orig : Bytes) : ∀ (bs : List AsmBlock) (acc : IntraResult),
    (∀ b ∈ bs, (b.msg = piece orig b ∧ O.chk k b.msg b.ecc = true) ∨
      (O.chk k b.msg b.ecc = false ∧
        ∃ p, O.dec k b.msg b.ecc = some (piece orig b, p) ∧ O.chk k (piece orig b) p = true)) →
    bs.foldl (fun acc b => intraBlock O k acc b.msg b.ecc) acc =
      { field := acc.field ++ (bs.map (piece orig)).flatten,
        corrupted := acc.corrupted || bs.any (fun b => !O.chk k b.msg b.ecc),
        corrected := acc.corrected } := by
  intro bs
  induction bs with
  | nil =>
    intro acc _
    simp only [List.foldl_nil, List.map_nil, List.flatten_nil, List.append_nil, List.any_nil,
      Bool.or_false]
  | cons b bs ih =>
    intro acc h
    rw [List.foldl_cons, ih _ fun x hx => h x (List.mem_cons_of_mem _ hx)]
    rcases h b (List.mem_cons_self ..) with ⟨hm, hc⟩ | ⟨hc, p, hd, hc2⟩
    · simp only [intraBlock, hc, if_true, ← hm, List.map_cons, List.flatten_cons, List.append_assoc,
        List.any_cons, Bool.not_true, Bool.false_or]
    · simp only [intraBlock, hc, Bool.false_eq_true, if_false, hd, hc2, if_true, List.map_cons,
        List.flatten_cons, List.append_assoc, List.any_cons, Bool.not_false, Bool.true_or,
        Bool.or_true]

/-- with every block intact or repairable and the blocks covering the field, the exact field comes out -/
theorem repair_of_blocks (O : Ops) (k : Nat) (orig field' : Bytes) (bs : List AsmBlock)
    (hlen : field'.length = orig.length)
    (hcover : (bs.map (·.msg)).flatten = field')
    (hpieces : (bs.map (piece orig)).flatten = (orig.drop 0).take ((bs.map (·.msg)).flatten).length)
    (hok : ∀ b ∈ bs, (b.msg = piece orig b ∧ O.chk k b.msg b.ecc = true) ∨
      (O.chk k b.msg b.ecc = false ∧
        ∃ p, O.dec k b.msg b.ecc = some (piece orig b, p) ∧ O.chk k (piece orig b) p = true)) :
    bs.foldl (fun acc b => intraBlock O k acc b.msg b.ecc)
      { field := [], corrupted := false, corrected := true } =
      { field := orig, corrupted := bs.any (fun b => !O.chk k b.msg b.ecc), corrected := true } := by
  rw [fold_intra O k orig bs _ hok, hpieces, hcover, hlen, List.drop_zero, List.take_length,
    List.nil_append, Bool.false_or]

/-! ## intra-ecc: undamaged round trip -/

theorem tiles_le : ∀ (L : List Block) (s e : Nat), Tiles L s e → s ≤ e := by
  intro L
  induction L with
  | nil => intro s e h; simp only [Tiles] at h; omega
  | cons b bs ih =>
    intro s e h
    simp only [Tiles] at h
    have := ih _ _ h.2.2
    omega

/-- the slices of a tiling of `[s, e)` concatenate to that part of the content -/
theorem tiles_flatten (content : Bytes) : ∀ (L : List Block) (s e : Nat), Tiles L s e →
    (L.map (slice content)).flatten = (content.drop s).take (e - s) := by
  intro L
  induction L with
  | nil =>
    intro s e h
    simp only [Tiles] at h
    subst h
    simp only [List.map_nil, List.flatten_nil, Nat.sub_self, List.take_zero]
  | cons b bs ih =>
    intro s e h
    simp only [Tiles] at h
    obtain ⟨hoff, _, ht⟩ := h
    have hle := tiles_le _ _ _ ht
    have he : e - s = b.len + (e - (s + b.len)) := by omega
    simp only [List.map_cons, List.flatten_cons]
    rw [ih _ _ ht, he, List.take_add, List.drop_drop]
    simp only [slice, hoff]

/-- the blocks both tools assemble from an undamaged field and its intra-ecc -/
def cleanBlocks (enc : Nat → Bytes → Bytes) (k : Nat) (field : Bytes) : List AsmBlock :=
  (layoutHeader k field.length field.length (field.length + 1) 0).map
    (fun b => { off := b.off, msg := slice field b, k := k, hash := [], ecc := enc k (slice field b) })

theorem intraEcc_eq_header (enc : Nat → Bytes → Bytes) (k : Nat) (field : Bytes) :
    intraEcc enc k field = genTrackHeader (fun _ => []) enc k field.length field := by
  unfold intraEcc genTrackHeader
  congr 1
  apply List.map_congr_left
  intro b hb
  have h := layoutHeader_mem k field.length field.length _ _ b hb
  rw [h.1, List.nil_append]

theorem assembleHeader_clean (enc : Nat → Bytes → Bytes) (k mbs : Nat) (hk : 1 ≤ k)
    (hpar : 1 ≤ mbs - k)
    (henc : ∀ m : Bytes, 1 ≤ m.length → m.length ≤ k → (enc k m).length = mbs - k) (field : Bytes) :
    assembleHeader k 0 mbs field.length field (intraEcc enc k field) (field.length + 1) 0 0 =
      cleanBlocks enc k field := by
  rw [intraEcc_eq_header,
    C10_agree_header k 0 mbs field.length hk (fun _ => []) enc (fun _ => rfl) henc (by omega) field]
  unfold cleanBlocks
  apply List.map_congr_left
  intro b hb
  have h := layoutHeader_mem k field.length field.length _ _ b hb
  rw [h.1]

theorem assemble_clean (enc : Nat → Bytes → Bytes) (k mbs : Nat) (hk : 1 ≤ k)
    (hpar : 1 ≤ mbs - k)
    (henc : ∀ m : Bytes, 1 ≤ m.length → m.length ≤ k → (enc k m).length = mbs - k) (field : Bytes) :
    assemble (fun _ => k) 0 mbs field (intraEcc enc k field) (field.length + 1) 0 0 =
      cleanBlocks enc k field := by
  have h := assembleHeader_eq_assemble k 0 mbs field.length field (intraEcc enc k field) hk
    (field.length + 1) 0 0
  rw [List.take_length] at h
  rw [← h]
  exact assembleHeader_clean enc k mbs hk hpar henc field

theorem cleanBlocks_msgs (enc : Nat → Bytes → Bytes) (k : Nat) (hk : 1 ≤ k) (field : Bytes) :
    ((cleanBlocks enc k field).map (·.msg)).flatten = field := by
  have ht := (C10_header_tiles k field.length field.length hk).1
  simp only [cleanBlocks, List.map_map]
  have := tiles_flatten field _ _ _ ht
  rw [Nat.min_self, Nat.sub_zero, List.drop_zero, List.take_length] at this
  exact this

theorem slice_self (content : Bytes) (lb : Block) :
    slice content lb = (content.drop lb.off).take (slice content lb).length := by
  unfold slice
  rw [List.take_eq_take_iff, List.length_take, List.length_drop]
  omega

/-- an undamaged block is intact (first case of `IntraBlockOK`) -/
theorem cleanBlocks_ok (O : Ops) (k : Nat) (hk : 1 ≤ k)
    (hacc : ∀ m : Bytes, 1 ≤ m.length → m.length ≤ k → O.chk k m (O.enc k m) = true) (field : Bytes) :
    ∀ b ∈ cleanBlocks O.enc k field, b.msg = piece field b ∧ O.chk k b.msg b.ecc = true := by
  intro b hb
  simp only [cleanBlocks, List.mem_map] at hb
  obtain ⟨b0, hb0, rfl⟩ := hb
  have h := layoutHeader_mem k field.length field.length _ _ b0 hb0
  have hl := slice_length field b0
  rw [Nat.min_self] at h
  exact ⟨slice_self field b0, hacc (slice field b0) (by omega) (by omega)⟩

/-- an undamaged field is the zero-damage case of `fold_intra` -/
theorem fold_clean (O : Ops) (k : Nat) (hk : 1 ≤ k)
    (hacc : ∀ m : Bytes, 1 ≤ m.length → m.length ≤ k → O.chk k m (O.enc k m) = true) (field : Bytes) :
    (cleanBlocks O.enc k field).foldl (fun acc b => intraBlock O k acc b.msg b.ecc)
      { field := [], corrupted := false, corrected := true } =
      { field := field, corrupted := false, corrected := true } := by
  have hok := cleanBlocks_ok O k hk hacc field
  rw [fold_intra O k field _ _ fun b hb => Or.inl (hok b hb),
    ← List.map_congr_left (f := (·.msg)) fun b hb => (hok b hb).1, cleanBlocks_msgs O.enc k hk,
    List.any_eq_false.2 fun b hb => by rw [(hok b hb).2]; decide]
  rfl

end Pff.Entry.A
