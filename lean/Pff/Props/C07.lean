import Pff.Model.Merge
import Pff.Proofs.Merge
import Pff.Props.C06
/-!
# C07 — replica trees are aligned: each relative path is voted once over all its copies

Property theorems only. Quantifiers: every finite tree shape (files beside directories at every
depth, names sorting before/after directory names), every number of replicas, every presence
pattern, every replica order.
-/
namespace Pff.Merge

/-- `p` comes strictly before `q` in the alignment order -/
abbrev Before (p q : Path) : Prop := pathLt p q = true

/-- The walk of a tree yields its paths in strictly increasing alignment order (so the order used
to pick the next group is the order every replica is read in), and no path is empty. -/
theorem C07_walk_sorted (t : Tree) (h : Sorted t) :
    ((walk t).map (·.1)).Pairwise Before ∧ ∀ pc ∈ walk t, pc.1 ≠ [] := by
  exact walk_spec t h

/-- The alignment loop on cursors that are each strictly increasing: every path of the union is
emitted exactly once (the emitted paths are strictly increasing), nothing else is emitted, and
each is grouped with exactly the replicas that contain it — all of them together — in replica
order, with that replica's content. -/
theorem C07_align (cursors : List Cursor)
    (hs : ∀ c ∈ cursors, (c.map (·.1)).Pairwise Before)
    (hne : ∀ c ∈ cursors, ∀ pc ∈ c, pc.1 ≠ []) :
    let out := align (remaining cursors + 1) cursors
    (out.map (·.1)).Pairwise Before ∧
    (∀ p, p ∈ out.map (·.1) ↔ ∃ c ∈ cursors, p ∈ c.map (·.1)) ∧
    (∀ pg ∈ out, pg.2 = (cursors.zipIdx).filterMap
        (fun ci => (ci.1.find? (fun pc => pc.1 = pg.1)).map (fun pc => (ci.2, pc.2)))) := by
  exact align_spec _ _ (Nat.lt_succ_self _) hs hne

/-- `pff dup` on replica trees: the output paths are exactly the union of the replicas' paths,
each once, and every output file is obtained from exactly the replicas that contain that path. -/
theorem C07_dup (bs : Nat) (replicas : List Tree) (hs : ∀ t ∈ replicas, Sorted t) :
    let r := dup bs replicas
    (r.used.map (·.1)).Pairwise Before ∧
    r.files.map (·.1) = r.used.map (·.1) ∧
    (∀ p, p ∈ r.used.map (·.1) ↔ ∃ t ∈ replicas, p ∈ (walk t).map (·.1)) ∧
    (∀ pu ∈ r.used, pu.2 = ((replicas.map walk).zipIdx).filterMap
        (fun ci => if pu.1 ∈ ci.1.map (·.1) then some ci.2 else none)) := by
  intro r
  obtain ⟨h1, h2, h3⟩ := dupGroups_spec replicas hs
  have hu : r.used.map (·.1) = (dupGroups replicas).map (·.1) := by
    rw [dup_used, List.map_map]; rfl
  have hf : r.files.map (·.1) = (dupGroups replicas).map (·.1) := by
    rw [dup_files, List.map_map]; rfl
  refine ⟨hu ▸ h1, hf.trans hu.symm, fun p => hu ▸ h2 p, fun pu hpu => ?_⟩
  obtain ⟨pg, hpg, rfl⟩ := List.mem_map.1 (dup_used bs replicas ▸ hpu)
  exact (congrArg (List.map (·.1)) (h3 pg hpg)).trans (holders_fst _ _)

/-- Consequently a file present in at least three replicas and intact in a majority of them at
every byte is restored exactly, whatever other files exist in whichever replicas. -/
theorem C07_restores (bs : Nat) (hbs : 0 < bs) (replicas : List Tree) (hs : ∀ t ∈ replicas, Sorted t)
    (p : Path) (orig : Bytes)
    (copies : List Bytes)
    (hcopies : copies = (replicas.map walk).filterMap
        (fun w => (w.find? (fun pc => pc.1 = p)).map (·.2)))
    (h3 : 3 ≤ copies.length)
    (hlen : orig.length = Pff.Vote.maxLen copies)
    (hmaj : ∀ j (hj : j < orig.length),
        (Pff.Vote.column copies j).length < 2 * (Pff.Vote.column copies j).count orig[j]) :
    (p, orig) ∈ (dup bs replicas).files := by
  obtain ⟨pg, hpg, rfl, rfl⟩ := dupGroups_copies replicas hs p copies hcopies (by omega)
  rw [dup_files, List.mem_map]
  exact ⟨pg, hpg, by rw [processGroup_restores bs hbs pg.2 orig h3 hlen hmaj]⟩

/-- Non-vacuity and regression witness for the defect repaired in /repo (alignment order): paths
of different depth, `d2/a.txt` missing nowhere but `d1/sub/b.txt` missing in the second replica. -/
example :
    let r1 : Tree := .node [] [("d1", .node [] [("sub", .node [("b.txt", [1])] [])]), ("d2", .node [("a.txt", [2])] [])]
    let r2 : Tree := .node [] [("d2", .node [("a.txt", [2])] [])]
    (dup 4 [r1, r2, r1]).used = [(["d1", "sub", "b.txt"], [0, 2]), (["d2", "a.txt"], [0, 1, 2])] := by
  decide

end Pff.Merge
