import Pff.Model.Vote
import Pff.Proofs.Vote
/-!
# C06 — byte-wise majority vote returns the plurality value at every offset

Property theorems only (helper lemmas live in `Pff/Proofs/Vote.lean`).
`voteChunked bs` is the model of the read loop of `majority_vote_byte_scan` with read-chunk size
`bs`; `voteSpec` is the declarative per-offset plurality.  Quantifiers: every number of copies,
every content and length (empty and truncated copies in any position), every `bs ≥ 1`.
-/
namespace Pff.Vote

/-- The result never depends on how the copies are chunked while reading: for every chunk size
`bs ≥ 1` the loop computes exactly the per-offset plurality spec (bytes and reported offsets). -/
theorem C06_chunk_independent (bs : Nat) (hbs : 0 < bs) (copies : List Bytes) :
    voteChunked bs copies 0 = voteSpec copies := by
  rw [voteChunked_eq bs hbs copies 0]
  have h0 : (fun x : Nat => 0 + x) = id := by funext x; simp
  simp only [h0, List.map_id]

/-- The merged output has the length of the longest copy. -/
theorem C06_length (bs : Nat) (hbs : 0 < bs) (copies : List Bytes) :
    (voteChunked bs copies 0).out.length = maxLen copies := by
  rw [C06_chunk_independent bs hbs]
  exact voteSpec_out_length copies

/-- At every offset the output holds a value carried by the largest number of the copies that
reach that offset, and among tied values the one carried by the earliest copy. -/
theorem C06_plurality (bs : Nat) (hbs : 0 < bs) (copies : List Bytes) (j : Nat)
    (hj : j < maxLen copies) :
    ∃ v, (voteChunked bs copies 0).out[j]? = some v ∧ v ∈ column copies j ∧
      (∀ w ∈ column copies j, (column copies j).count w ≤ (column copies j).count v) ∧
      (∀ w ∈ (column copies j).takeWhile (· ≠ v),
          (column copies j).count w < (column copies j).count v) := by
  rw [C06_chunk_independent bs hbs, voteSpec_out_getElem? copies j hj]
  obtain ⟨v, hv⟩ := specVal_isSome _ ((column_ne_nil_iff copies j).2 hj)
  exact ⟨v, hv, specVal_props _ _ hv⟩

/-- Exactly the offsets where at least two copies reach and all of them differ are reported. -/
theorem C06_ambiguous_reported (bs : Nat) (hbs : 0 < bs) (copies : List Bytes) (j : Nat) :
    j ∈ (voteChunked bs copies 0).errors ↔
      j < maxLen copies ∧ 2 ≤ (column copies j).length ∧ (column copies j).Nodup := by
  rw [C06_chunk_independent bs hbs]
  exact mem_voteSpec_errors copies j

/-- If at every offset more than half of the copies reaching it carry the original byte, the
original is reproduced exactly and nothing is reported. -/
theorem C06_majority_restores (bs : Nat) (hbs : 0 < bs) (copies : List Bytes) (orig : Bytes)
    (hlen : orig.length = maxLen copies)
    (hmaj : ∀ j (hj : j < orig.length),
        (column copies j).length < 2 * (column copies j).count orig[j]) :
    (voteChunked bs copies 0).out = orig ∧ (voteChunked bs copies 0).errors = [] := by
  rw [C06_chunk_independent bs hbs]
  constructor
  · apply List.ext_getElem?
    intro j
    by_cases hj : j < orig.length
    · rw [voteSpec_out_getElem? copies j (hlen ▸ hj), (specVal_of_majority _ _ (hmaj j hj)).1,
        List.getElem?_eq_getElem hj]
    · rw [List.getElem?_eq_none (by rw [voteSpec_out_length]; omega),
        List.getElem?_eq_none (by omega)]
  · rw [voteSpec_errors_eq_nil_iff]
    intro j hj h
    have := (specVal_of_majority _ _ (hmaj j (hlen ▸ hj))).2
    simp [specAmbiguous, h] at this

/-- Status is zero exactly when there are at least three copies and no offset is ambiguous. -/
theorem C06_status (bs : Nat) (hbs : 0 < bs) (copies : List Bytes) :
    (majorityVote bs copies).status = 0 ↔
      3 ≤ copies.length ∧
      ∀ j, j < maxLen copies → ¬ (2 ≤ (column copies j).length ∧ (column copies j).Nodup) := by
  rw [← voteSpec_errors_eq_nil_iff, majorityVote]
  split
  · next hlt => exact ⟨fun h => by simp at h, fun h => by omega⟩
  · next hge =>
    simp only [C06_chunk_independent bs hbs, List.isEmpty_iff]
    by_cases he : (voteSpec copies).errors = []
    · simp [he]; omega
    · simp [he]

/-- With fewer than three copies the first copy is reproduced verbatim with a non-zero status. -/
theorem C06_fewer_than_three (bs : Nat) (copies : List Bytes) (h : copies.length < 3) :
    majorityVote bs copies = { out := copies.headD [], status := 1, errors := [] } := by
  simp [majorityVote, h]

/-- Regression witness for the defect fixed in /repo ("fix: majority vote single-survivor
shortcut"): on the pinned loop, copies of 10, 10 and 20 bytes read 8 at a time lose bytes. -/
theorem C06_pinned_witness :
    (voteChunkedPinned 8 [List.replicate 10 1, List.replicate 10 1, List.replicate 20 1] 0).out.length
      = 16 := by
  rw [voteChunkedPinned_step _ _ _ (by decide) (by decide),
    voteChunkedPinned_step _ _ _ (by decide) (by decide),
    voteChunkedPinned_step _ _ _ (by decide) (by decide),
    voteChunkedPinned_stop _ _ _ (by decide)]
  decide

/-- Non-vacuity: a concrete instance of the hypotheses of `C06_majority_restores` with copies of
different lengths, a corrupted byte and a truncated copy. -/
example : let copies : List Bytes := [[1,2,9,4], [1,2,3,4,5], [1,2,3], [7,2,3,4,5]]
    let orig : Bytes := [1,2,3,4,5]
    orig.length = maxLen copies ∧
    ∀ j (hj : j < orig.length), (column copies j).length < 2 * (column copies j).count orig[j] := by
  decide

end Pff.Vote
