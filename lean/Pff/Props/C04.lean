import Pff.Model.Ecc
import Pff.Proofs.Ecc
/-!
# C04 — repairs are conservative: nothing unverified is ever written

Property theorems only. `O : Ops` is arbitrary: the hash is any function and the decoder `O.dec`
may return **anything** (any bytes, or fail) — so the statements cover damage of any weight to the
file, to the parity/hash bytes of the ecc track, or both, including truncated and over-long tracks.
-/
namespace Pff.Ecc

open Pff.Layout

/-- Each block written either equals the input block, or matches the stored hash, or passes the
ecc check together with the parity the decoder returned. -/
theorem C04_block (O : Ops) (fast : Bool) (mbs : Nat) (b : AsmBlock) :
    (processBlock O fast mbs b).1 = b.msg ∨ O.H (processBlock O fast mbs b).1 = b.hash ∨
      ∃ e', O.chk b.k (processBlock O fast mbs b).1 e' = true := by
  rcases processBlock_spec O fast mbs b with ⟨_, h⟩ | ⟨_, h⟩ | ⟨_, m', e', _, hc, h⟩
  · exact Or.inl (by rw [h])
  · exact Or.inl (by rw [h])
  · rw [h]
    rcases hc with hc | ⟨hc, _⟩
    · exact Or.inr (Or.inl hc)
    · exact Or.inr (Or.inr ⟨e', hc⟩)

/-- A block that still matches its stored hash is never altered in the default checking mode. -/
theorem C04_intact_untouched (O : Ops) (mbs : Nat) (b : AsmBlock) (h : O.H b.msg = b.hash) :
    processBlock O true mbs b = (b.msg, .intact) := by
  rcases processBlock_spec O true mbs b with ⟨_, hp⟩ | ⟨hn, _⟩ | ⟨hn, _⟩
  · exact hp
  all_goals
    simp only [needsRepair, h, ne_eq, not_true_eq_false, decide_false, Bool.not_true,
      Bool.false_and, Bool.or_false, Bool.false_eq_true] at hn

/-- A block reported unrepairable is copied through unchanged. -/
theorem C04_failed_copied (O : Ops) (fast : Bool) (mbs : Nat) (b : AsmBlock)
    (h : (processBlock O fast mbs b).2 = .failed) : (processBlock O fast mbs b).1 = b.msg := by
  rcases processBlock_spec O fast mbs b with ⟨_, h1⟩ | ⟨_, h1⟩ | ⟨_, m', e', _, _, h1⟩
  · rw [h1]
  · rw [h1]
  · rw [h1] at h
    cases h

/-- With an incomplete stored ecc (truncated ecc file) the ecc check alone never commits a block:
what is written is the input block or a value matching the stored hash. -/
theorem C04_truncated_ecc_needs_hash (O : Ops) (fast : Bool) (mbs : Nat) (b : AsmBlock)
    (h : eccComplete mbs b = false) :
    (processBlock O fast mbs b).1 = b.msg ∨ O.H (processBlock O fast mbs b).1 = b.hash := by
  rcases processBlock_spec O fast mbs b with ⟨_, h1⟩ | ⟨_, h1⟩ | ⟨_, m', e', _, hc, h1⟩
  · exact Or.inl (by rw [h1])
  · exact Or.inl (by rw [h1])
  · rw [h1]
    rcases hc with hc | ⟨_, he⟩
    · exact Or.inr hc
    · rw [h] at he
      cases he

/-- decoders return a message of the length they were given (the only thing assumed of them) -/
def DecLen (O : Ops) : Prop := ∀ k m e m' e', O.dec k m e = some (m', e') → m'.length = m.length

/-- Header tool: every output file has the length of the (damaged) input file, whatever the ecc
track holds (garbage, truncated, longer than needed) and whatever `readLen` is. -/
theorem C04_length_header (O : Ops) (hlen : DecLen O) (fast : Bool) (thr k hashLen mbs readLen : Nat)
    (content track out : Bytes)
    (h : (correctHeaderFile O fast thr k hashLen mbs readLen content track).output = some out) :
    out.length = content.length := by
  have := assembleHeader_msgs_length k hashLen mbs readLen content track (content.length + 1) 0 0
  rw [List.length_take] at this
  exact headerOf_length O hlen fast thr mbs content _ (by omega) out h

/-- Whole-file tool: same. -/
theorem C04_length_whole (O : Ops) (hlen : DecLen O) (fast : Bool) (thr : Nat) (kOf : Nat → Nat)
    (hashLen mbs : Nat) (content track out : Bytes)
    (h : (correctWholeFile O fast thr kOf hashLen mbs content track).output = some out) :
    out.length = content.length := by
  exact wholeOf_length O hlen fast thr mbs content _
    (assemble_msgs_length kOf hashLen mbs content track (content.length + 1) 0 0) out h

/-- Header tool, partial recovery: the output is the block-wise concatenation where every block is
either the input block or the committed repair of that block, followed by the untouched rest. -/
theorem C04_blockwise_header (O : Ops) (fast : Bool) (thr k hashLen mbs readLen : Nat)
    (content track out : Bytes)
    (h : (correctHeaderFile O fast thr k hashLen mbs readLen content track).output = some out) :
    let blocks := assembleHeader k hashLen mbs readLen content track (content.length + 1) 0 0
    ∃ ws : List Bytes, ws.length = blocks.length ∧
      out = ws.flatten ++ content.drop ((blocks.map (·.msg)).flatten).length ∧
      ∀ i (hi : i < blocks.length), ws[i]? = some blocks[i].msg ∨
        ws[i]? = some (processBlock O fast mbs blocks[i]).1 := by
  intro blocks
  have hle := runLoop_written_length_le O fast mbs thr blocks
  refine ⟨(runLoop O fast mbs thr blocks).written ++
    (blocks.drop (runLoop O fast mbs thr blocks).written.length).map (·.msg), ?_, ?_, ?_⟩
  · simp only [List.length_append, List.length_map, List.length_drop]
    omega
  · exact (headerOf_output O fast thr mbs content blocks out h).1
  · intro i hi
    by_cases hiw : i < (runLoop O fast mbs thr blocks).written.length
    · right
      obtain ⟨b, hb, hw⟩ := runLoop_written_getElem? O fast mbs thr blocks i hiw
      rw [List.getElem?_eq_getElem hi, Option.some.injEq] at hb
      rw [List.getElem?_append_left hiw, hw, hb]
    · left
      rw [List.getElem?_append_right (by omega), List.getElem?_map, List.getElem?_drop,
        show (runLoop O fast mbs thr blocks).written.length +
          (i - (runLoop O fast mbs thr blocks).written.length) = i by omega,
        List.getElem?_eq_getElem hi]
      rfl

/-- Whole-file tool, partial recovery: a prefix of the blocks, each either the input block or its
committed repair, followed by the rest of the input file verbatim. -/
theorem C04_blockwise_whole (O : Ops) (fast : Bool) (thr : Nat) (kOf : Nat → Nat) (hashLen mbs : Nat)
    (content track out : Bytes)
    (h : (correctWholeFile O fast thr kOf hashLen mbs content track).output = some out) :
    let blocks := assemble kOf hashLen mbs content track (content.length + 1) 0 0
    ∃ ws : List Bytes, ws.length ≤ blocks.length ∧
      out = ws.flatten ++ content.drop ws.flatten.length ∧
      ∀ i, i < ws.length → ∃ b, blocks[i]? = some b ∧ ws[i]? = some (processBlock O fast mbs b).1 := by
  intro blocks
  refine ⟨(runLoop O fast mbs thr blocks).written, runLoop_written_length_le O fast mbs thr blocks, ?_, ?_⟩
  · exact (wholeOf_output O fast thr mbs content blocks out h).1
  · intro i hi
    exact runLoop_written_getElem? O fast mbs thr blocks i hi

/-- A file in which some processed block was reported unrepairable is never counted as completely
repaired (both tools)… -/
theorem C04_failed_not_complete (O : Ops) (fast : Bool) (mbs thr : Nat) (blocks : List AsmBlock)
    (i : Nat) (hi : i < blocks.length) (hproc : i < (runLoop O fast mbs thr blocks).written.length)
    (hf : (processBlock O fast mbs blocks[i]).2 = .failed) :
    (runLoop O fast mbs thr blocks).partialFail = true := by
  rw [(runLoop_spec O fast mbs thr blocks).partialFail, List.any_eq_true]
  exact ⟨blocks[i], List.mem_take_iff_getElem.mpr ⟨i, by omega, rfl⟩, by simpa only [decide_eq_true_eq] using hf⟩

/-- … and a run with a corrupted file that is not completely repaired exits non-zero. -/
theorem C04_exit (rs : List FileResult) (hwf : ∀ r ∈ rs, r.complete = true → r.corrupted = true)
    (h : ∃ r ∈ rs, r.corrupted = true ∧ r.complete = false) : exitStatus rs = 1 := by
  exact exitStatus_one rs hwf h

/-- well-formedness used by `C04_exit` holds for both tools -/
theorem C04_results_wf (O : Ops) (fast : Bool) (thr k hashLen mbs readLen : Nat) (kOf : Nat → Nat)
    (content track : Bytes) :
    ((correctHeaderFile O fast thr k hashLen mbs readLen content track).complete = true →
      (correctHeaderFile O fast thr k hashLen mbs readLen content track).corrupted = true) ∧
    ((correctWholeFile O fast thr kOf hashLen mbs content track).complete = true →
      (correctWholeFile O fast thr kOf hashLen mbs content track).corrupted = true) := by
  constructor
  · unfold correctHeaderFile
    simp only
    split
    · intro _; rfl
    · intro h; cases h
  · unfold correctWholeFile
    simp only
    split
    · split
      · intro _; rfl
      · intro h; cases h
    · intro h; cases h

end Pff.Ecc
