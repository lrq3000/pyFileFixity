import Pff.Model.OpsFacade
/-!
Specification-level predicates of the bridge theorems (`Props/Bridge.lean`), in bytes (no theorem
here): `IsBytes` — a Python byte string, as read from the file or the ecc file; `origMsg` — what
`file.read(k)` returned at the block's offset when the ecc was generated; `BlockGeom` — a block as
`entry_assemble` / `stream_entry_assemble` hands it over when message, hash and parity were read in
full (`n = max_block_size`, `k = message_size`); `erasedPos` — the positions `ECCMan.decode` takes
for erasures with `--enable_erasures` (bytes equal to the erasure symbol).
-/
namespace Pff.Bridge

open Pff.Layout

/-- bytes -/
def IsBytes (l : Bytes) : Prop := ∀ x ∈ l, x < 256

/-- the original message of the block: the slice of the original file at the block's offset -/
def origMsg (orig : Bytes) (b : AsmBlock) : Bytes := (orig.drop b.off).take b.msg.length

/-- geometry of a complete block of a codec with `n = max_block_size` -/
structure BlockGeom (n : Nat) (orig : Bytes) (b : AsmBlock) : Prop where
  bytesOrig : IsBytes orig
  bytesMsg  : IsBytes b.msg
  bytesEcc  : IsBytes b.ecc
  kpos      : 1 ≤ b.k
  kle       : b.k ≤ n
  msgpos    : 1 ≤ b.msg.length
  msgle     : b.msg.length ≤ b.k
  inside    : b.off + b.msg.length ≤ orig.length
  eccLen    : b.ecc.length = n - b.k

/-- received positions holding the erasure symbol -/
def erasedPos (word : Bytes) (sym : Nat) : List Nat :=
  (List.range word.length).filter (fun i => word[i]? = some sym)

end Pff.Bridge
