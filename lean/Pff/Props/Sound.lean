import Pff.Props.Bridge
import Pff.Proofs.Sound2
/-!
# Soundness of committed repairs without contract W (C01 / C04 / C09, safety half)

Contract W (the third-party decoders return the codeword within capacity) is an *assumption*
about code outside /repo.  These theorems show how little depends on it: for an ARBITRARY decoder,
whatever the tools commit for a block that is within capacity IS the original block —

* `C02_decode_sound` (in `Props/C02.lean`): facade level;
* `C01_block_sound_A/B`: a block within capacity (bytes), any decoder returning words of the
  lengths it was given, hash not colliding on this block: if `processBlock` reports the block
  intact or repaired, the bytes written are the original ones;
* `C01_file_sound_whole/header`: a file all of whose blocks satisfy that and that the tool reports
  completely repaired (or untouched) is written out equal to the original / original header;

so W is needed only for liveness (that within capacity the decoder does return, hence "exit 0"),
never for the correctness of a file reported as repaired.
-/
namespace Pff.Sound

open Pff.GF Pff.Facade Pff.Ecc Pff.Layout Pff.RSSpec Pff.Entry Pff.Bridge

/-- capacity of a received block around the original, in bytes, for the erasure options in force -/
def BlockWithinCap (O : Ops) (n : Nat) (en oe : Bool) (sym : Nat) (orig : List Nat) (b : AsmBlock) : Prop :=
  if en || oe then
    2 * errorsOutside (b.msg ++ b.ecc) (origMsg orig b ++ O.enc b.k (origMsg orig b)) (erasedPos (b.msg ++ b.ecc) sym)
      + (erasedPos (b.msg ++ b.ecc) sym).length ≤ n - b.k
  else 2 * hdist (b.msg ++ b.ecc) (origMsg orig b ++ O.enc b.k (origMsg orig b)) ≤ n - b.k

/-- the decoder returns words of the lengths it was given (all that is asked of it here) -/
def DecLens (O : Ops) (n : Nat) (b : AsmBlock) : Prop :=
  ∀ m' e', O.dec b.k b.msg b.ecc = some (m', e') → m'.length = b.msg.length ∧ e'.length = n - b.k

/-- what a block reported intact or repaired holds -/
def BlockSound (O : Ops) (fast : Bool) (n : Nat) (orig : List Nat) (b : AsmBlock) : Prop :=
  (processBlock O fast n b).2 ≠ BlockStatus.failed → (processBlock O fast n b).1 = origMsg orig b

theorem C01_block_sound_A (algo n k0 sym : Nat) (ha : algo = 1 ∨ algo = 2 ∨ algo = 3) (hn : n ≤ 255) (hsym : sym < 256)
    (core : Core (Elt pA)) (H : List Nat → List Nat) (fast en oe : Bool)
    (orig : List Nat) (b : AsmBlock) (hg : BlockGeom n orig b)
    (hcap : BlockWithinCap (opsOfFacade (codecA algo n k0) core H en sym oe) n en oe sym orig b)
    (hlens : DecLens (opsOfFacade (codecA algo n k0) core H en sym oe) n b)
    (hcoll : ∀ w, H w = b.hash → w = origMsg orig b) :
    BlockSound (opsOfFacade (codecA algo n k0) core H en sym oe) fast n orig b := by
  exact Pff.SoundProofs.blockSound_generic (codecA algo n k0) core
    (Pff.SoundProofs.soundFactsA algo n k0 ha hn core) H fast en oe sym hsym orig b hg hcap hlens hcoll

theorem C01_block_sound_B (n k0 sym : Nat) (hn : n ≤ 255) (hsym : sym < 256)
    (core : Core (Elt pB)) (H : List Nat → List Nat) (fast en oe : Bool)
    (orig : List Nat) (b : AsmBlock) (hg : BlockGeom n orig b)
    (hcap : BlockWithinCap (opsOfFacade (codecB n k0) core H en sym oe) n en oe sym orig b)
    (hlens : DecLens (opsOfFacade (codecB n k0) core H en sym oe) n b)
    (hcoll : ∀ w, H w = b.hash → w = origMsg orig b) :
    BlockSound (opsOfFacade (codecB n k0) core H en sym oe) fast n orig b := by
  exact Pff.SoundProofs.blockSound_generic (codecB n k0) core
    (Pff.SoundProofs.soundFactsB n k0 hn core) H fast en oe sym hsym orig b hg hcap hlens hcoll

/-- whole-file tool, any `Ops`: if every assembled block is sound and the blocks cover the file,
then an output reported as a complete repair is the original file -/
theorem C01_file_sound_whole (O : Ops) (fast : Bool) (thr hashLen mbs : Nat) (kOf : Nat → Nat)
    (orig damaged trackD : List Nat) (hlen : damaged.length = orig.length)
    (hcover : ((assemble kOf hashLen mbs damaged trackD (damaged.length + 1) 0 0).map (·.msg)).flatten = damaged)
    (hsound : ∀ b ∈ assemble kOf hashLen mbs damaged trackD (damaged.length + 1) 0 0, BlockSound O fast mbs orig b)
    (out : List Nat)
    (hout : (correctWholeFile O fast thr kOf hashLen mbs damaged trackD).output = some out)
    (hcomplete : (correctWholeFile O fast thr kOf hashLen mbs damaged trackD).complete = true) :
    out = orig := by
  exact Pff.Ecc.B.wholeOf_sound O fast thr mbs orig damaged _ hlen hcover
    (assemble_pieces kOf hashLen mbs damaged trackD orig (damaged.length + 1) 0 0)
    hsound out hout hcomplete

/-- header tool, any `Ops`: likewise for the protected header -/
theorem C01_file_sound_header (O : Ops) (fast : Bool) (thr k hashLen mbs readLen : Nat)
    (orig damaged trackD : List Nat) (hlen : damaged.length = orig.length)
    (hcover : ((assembleHeader k hashLen mbs readLen damaged trackD (damaged.length + 1) 0 0).map (·.msg)).flatten
                = damaged.take readLen)
    (hsound : ∀ b ∈ assembleHeader k hashLen mbs readLen damaged trackD (damaged.length + 1) 0 0, BlockSound O fast mbs orig b)
    (out : List Nat)
    (hout : (correctHeaderFile O fast thr k hashLen mbs readLen damaged trackD).output = some out)
    (hcomplete : (correctHeaderFile O fast thr k hashLen mbs readLen damaged trackD).complete = true) :
    out = orig.take readLen ++ damaged.drop readLen := by
  exact Pff.Ecc.B.headerOf_sound O fast thr mbs readLen orig damaged _ hlen hcover
    (assembleHeader_pieces k hashLen mbs readLen damaged trackD orig (damaged.length + 1) 0 0)
    hsound out hout hcomplete

end Pff.Sound
