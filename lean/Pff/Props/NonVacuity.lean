import Pff.Props.Chain2
import Pff.Props.RunD
import Pff.Proofs.NonVacuity
/-!
# The hypotheses of the run-level and chain theorems are satisfiable

An implication whose premises no archive meets would prove nothing.  Here: every *undamaged*
archive meets the premises of the within-capacity theorems (distance 0 is within capacity), so
they are satisfiable for every parameter set and every list of admissible files; and a fully
concrete two-file archive (toy hash and parity functions, both tools) meets the remaining side
conditions (`ParamsOK`, `FileOK`, distinct paths, `NoAccidental`) by kernel computation.
-/
namespace Pff.NonVacuity

open Pff.GF Pff.Facade Pff.Ecc Pff.Layout Pff.RSSpec Pff.Entry Pff.Scan Pff.Run Pff.Bridge Pff.Chain

/-- an undamaged file with its generated track is "within capacity" (run-level premise of
`C01_run_within_capacity`) -/
theorem pristine_withinCapacity (O : Ops) (P : Pff.Run.Params) (hP : ParamsOK O P) (d : Damaged)
    (h1 : d.now = d.orig) (h2 : d.trackD = genTrackFor O P d.orig) : WithinCapacity O P d := by
  unfold WithinCapacity
  rw [h1, h2]
  refine ⟨rfl, rfl, ?_⟩
  cases htool : P.tool with
  | header =>
    simp only [genTrackFor, htool]
    have h := Pff.NonVacuityProofs.pristine_header O P.fast P.kMain P.hashLen P.mbs P.headerSize hP.kMain
      hP.posMain hP.ops d.orig
    exact ⟨h.1, fun b hb => Or.inl ⟨(h.2 b hb).msgEq, (h.2 b hb).clean⟩⟩
  | whole =>
    simp only [genTrackFor, htool]
    have h := Pff.NonVacuityProofs.pristine_whole O P.fast P.hashLen P.mbs (P.kOfFor d.orig.length) (hP.kOf _)
      (hP.posOf _) hP.ops d.orig
    exact ⟨h.1, fun b hb => Or.inl ⟨(h.2 b hb).msgEq, (h.2 b hb).clean⟩⟩

/-- … and meets the byte-level premise of the chain `C01_chain_A` (codecs 1–3) -/
theorem pristine_withinCapacityBytes_A (algo k0 : Nat) (ha : algo = 1 ∨ algo = 2 ∨ algo = 3)
    (core : Core (Elt pA)) (H : List Nat → List Nat) (hashLen : Nat) (hH : ∀ m, (H m).length = hashLen)
    (hHb : ∀ m, IsBytes (H m))
    (P : Pff.Run.Params) (hP : ParamsGeom P hashLen) (d : Damaged) (hb : IsBytes d.orig)
    (h1 : d.now = d.orig)
    (h2 : d.trackD = genTrackFor (opsOfFacade (codecA algo P.mbs k0) core H false 0 false) P d.orig) :
    WithinCapacityBytes (opsOfFacade (codecA algo P.mbs k0) core H false 0 false) P d := by
  exact Pff.NonVacuityProofs.withinCapacityBytes _ P
    (Pff.ChainProofs.paramsOK_facade (codecA algo P.mbs k0) core
      (Pff.ChainProofs.codecLenA algo P.mbs k0 ha hP.mbs) H hashLen hH P rfl hP.hash hP.kMain hP.kOf hP.kIntra)
    hHb (fun _ _ => Pff.BridgeProofs.bytes_ofElts _) d hb h1 h2

/-- the undamaged index file is within capacity (premise of `C15_chain_*`) -/
theorem pristine_idxWithinCapacity (O : Ops) (recs : List (Nat × Nat))
    (hb : IsBytes (genIdxFile O.enc recs)) : IdxWithinCapacity O recs (genIdxFile O.enc recs) := by
  exact ⟨rfl, hb, fun _ _ => by rw [Pff.RSProofs.hdist_self]; omega⟩

/-- undamaged metadata is "within the intra capacity" (premise of `C09_run_metadata_within_capacity`) -/
theorem pristine_metaWithinCapacity (O : Ops) (P : Pff.Run.Params) (hI : IntraOps O P.kIntra P.mbs)
    (path content track : List Nat) (hne : path ≠ [])
    (hc : Clean path ∧ Clean (intraEcc O.enc P.kIntra path) ∧ Clean (intraEcc O.enc P.kIntra (digitsOf content.length)))
    (hs : path.length + (digitsOf content.length).length + (intraEcc O.enc P.kIntra path).length
          + (intraEcc O.enc P.kIntra (digitsOf content.length)).length + 4 * delim.length ≤ 65535) :
    MetaPristine O P (partsOf O P.kIntra path content track) ∧
    MetaWithinCapacity O P (partsOf O P.kIntra path content track) (partsOf O P.kIntra path content track) := by
  exact Pff.NonVacuityProofs.metaWithinCapacity_parts O P hI path _ _ _ track rfl rfl hne
    ⟨hc.1, Pff.Run.C.clean_digits _, hc.2⟩ hs

/-! ## a fully concrete archive -/

/-- toy hash: two bytes -/
def tH (m : List Nat) : List Nat := [m.foldl (· + ·) 7 % 256, (m.foldl (fun a x => a * 3 + x) 1) % 256]
/-- toy parity: `6 - k` symbols -/
def tEnc (k : Nat) (m : List Nat) : List Nat := (List.range (6 - k)).map (fun i => (m.foldl (· + ·) i) % 250)
def tO : Ops := { H := tH, enc := tEnc, chk := fun k m e => e == tEnc k m, dec := fun _ _ _ => none }
def tP (t : Tool) : Pff.Run.Params where
  tool := t
  fast := true
  thr := 10
  hashLen := 2
  mbs := 6
  headerSize := 5
  kMain := 3
  kOfFor := fun size x => if x < 5 then 3 else if size < 12 then 4 else 2
  kIntra := 3
  ignoreSize := false
def tFs : FS := [([97, 98], [1, 2, 3, 4, 5, 6, 7, 8, 9, 10, 11, 12, 13]), ([100, 47, 101], [9, 8, 7, 6, 5, 4, 3, 2, 1])]

/-- the toy archive meets every premise of `C03_run_pristine`, for both tools -/
theorem toy_premises (t : Tool) :
    ParamsOK tO (tP t) ∧ (∀ pc ∈ tFs, FileOK tO (tP t) pc.1 pc.2) ∧ (tFs.map (·.1)).Nodup ∧
    NoAccidental [35, 35, 10] marker (tFs.map (fun pc => genBody tO (tP t) pc.1 pc.2)) := by
  have hH : ∀ m, (tH m).length = 2 := fun _ => rfl
  have hE : ∀ k m, (tEnc k m).length = 6 - k := fun k m => by
    simp only [tEnc, List.length_map, List.length_range]
  have hfiles : ∀ pc ∈ tFs, pc.1 ≠ [] ∧ pc.1.contains 0 = false ∧ Clean pc.1 ∧
      Clean (intraEcc tEnc 3 pc.1) ∧ Clean (intraEcc tEnc 3 (digitsOf pc.2.length)) ∧
      pc.1.length + (digitsOf pc.2.length).length + (intraEcc tEnc 3 pc.1).length
        + (intraEcc tEnc 3 (digitsOf pc.2.length)).length + 4 * delim.length ≤ 65535 := by
    unfold Clean
    decide
  refine ⟨⟨by show 1 ≤ 3; omega, ?_, by show 1 ≤ 2 + (6 - 3); omega, ?_,
    ⟨hH, fun k m _ _ => hE k m, ?_⟩,
    ⟨by show 1 ≤ 3; omega, by show 1 ≤ 6 - 3; omega, fun m _ _ => hE 3 m, fun m _ _ => ?_⟩⟩, ?_, by decide, ?_⟩
  · intro size x
    show 1 ≤ if x < 5 then 3 else if size < 12 then 4 else 2
    split
    · omega
    · split <;> omega
  · intro size x
    show 1 ≤ 2 + (6 - (if x < 5 then 3 else if size < 12 then 4 else 2))
    omega
  · intro h
    exact absurd (show true = false from h) (by decide)
  · show (tEnc 3 m == tEnc 3 m) = true
    exact beq_self_eq_true _
  · intro pc hpc
    obtain ⟨h1, h2, h3, h4, h5, h6⟩ := hfiles pc hpc
    exact ⟨h1, h2, h3, h4, h5, h6⟩
  · unfold NoAccidental
    rw [occurrences_eq_walk]
    cases t <;> decide +kernel

/-- … so its conclusion holds of it (and it is what running the model gives) -/
theorem toy_run (t : Tool) :
    counters (run tO (tP t) tFs (genStream tO (tP t) [35, 35, 10] tFs)) = (2, 0, 0, 0, 0) ∧
    exitOf (run tO (tP t) tFs (genStream tO (tP t) [35, 35, 10] tFs)) = 0 := by
  obtain ⟨h1, h2, h3, h4⟩ := toy_premises t
  obtain ⟨_, hc, he, _⟩ := C03_run_pristine tO (tP t) [35, 35, 10] tFs h1 h2 h3 h4
  exact ⟨hc, he⟩

/-- replacing the first entry by garbage (no marker spelled): both streams are free of accidental
markers — the premises of `C08_run_independent` are met -/
theorem toy_independence_premises (t : Tool) :
    let es := tFs.map (fun pc => genBody tO (tP t) pc.1 pc.2)
    NoAccidental [35, 35, 10] marker es ∧ NoAccidental [35, 35, 10] marker (es.set 0 [1, 2, 3, 250, 255, 250, 255, 250, 9, 9]) := by
  refine ⟨(toy_premises t).2.2.2, ?_⟩
  unfold NoAccidental
  rw [occurrences_eq_walk]
  cases t <;> decide +kernel

end Pff.NonVacuity
