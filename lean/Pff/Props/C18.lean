import Pff.Model.DupDb
import Pff.Proofs.DupDbRun
/-!
# C18 — with a hash database, replica repair reports OK only for hash-correct output

Property theorems only. `Hf` is any deterministic hash pair, the group any list of copies (any
number of replicas, any corruption pattern), `recorded` the database row of the path or `none`.
The model has no notion of depth: every relative path is looked up by its own row (that this is
what the tool does for files at any depth is decided by the correspondence check, which is where
the repaired defect — rows never matching nested files — showed).
-/
namespace Pff.DupDb

open Pff.Merge

/-- the (output, error code, used copy) triple computed before the comparison with the database -/
def pre (bs : Nat) (Hf : Bytes → Nat × Nat) (recorded : Option (Nat × Nat)) (g : List (Nat × Bytes)) :
    Bytes × Nat × Option Nat :=
  match g with
  | [(_, c)] => (c, 0, none)
  | _ =>
    match recorded.bind (fun r => findCorrect Hf r (g.map (·.2)) 0) with
    | some (i, c) => (c, 0, some i)
    | none => ((Pff.Vote.majorityVote bs (g.map (·.2))).out,
               (Pff.Vote.majorityVote bs (g.map (·.2))).status, none)

theorem processGroupDb_eq (bs : Nat) (Hf : Bytes → Nat × Nat) (recorded : Option (Nat × Nat))
    (g : List (Nat × Bytes)) :
    processGroupDb bs Hf recorded g =
      match recorded with
      | none => { out := (pre bs Hf recorded g).1, errcode := (pre bs Hf recorded g).2.1,
                  mark := .unknown, usedCorrect := (pre bs Hf recorded g).2.2 }
      | some r =>
        if Hf (pre bs Hf recorded g).1 = r then
          { out := (pre bs Hf recorded g).1, errcode := (pre bs Hf recorded g).2.1,
            mark := .ok, usedCorrect := (pre bs Hf recorded g).2.2 }
        else
          { out := (pre bs Hf recorded g).1, errcode := 1,
            mark := .ko, usedCorrect := (pre bs Hf recorded g).2.2 } := by
  unfold processGroupDb pre
  rfl

theorem processGroupDb_out (bs : Nat) (Hf : Bytes → Nat × Nat) (recorded : Option (Nat × Nat))
    (g : List (Nat × Bytes)) :
    (processGroupDb bs Hf recorded g).out = (pre bs Hf recorded g).1 := by
  rw [processGroupDb_eq]
  split
  · rfl
  · split <;> rfl

/-- a covered path: either the output has the recorded hashes and is marked OK, or it has not, is
marked KO and carries error code 1 -/
theorem processGroupDb_some (bs : Nat) (Hf : Bytes → Nat × Nat) (r : Nat × Nat)
    (g : List (Nat × Bytes)) :
    let res := processGroupDb bs Hf (some r) g
    (Hf res.out = r ∧ res.mark = .ok) ∨ (Hf res.out ≠ r ∧ res.mark = .ko ∧ res.errcode = 1) := by
  rw [processGroupDb_eq]
  by_cases hr : Hf (pre bs Hf (some r) g).1 = r
  · simp [hr]
  · simp [hr]

/-- A path the database does not cover is never marked hash-correct. -/
theorem C18_uncovered_unknown (bs : Nat) (Hf : Bytes → Nat × Nat) (g : List (Nat × Bytes)) :
    (processGroupDb bs Hf none g).mark = .unknown := by
  rw [processGroupDb_eq]

/-- A path is marked hash-correct only if the file written matches the recorded hashes — in
particular whenever it is marked OK without contributing to the exit status. -/
theorem C18_ok_sound (bs : Nat) (Hf : Bytes → Nat × Nat) (recorded : Option (Nat × Nat)) (g : List (Nat × Bytes))
    (h : (processGroupDb bs Hf recorded g).mark = .ok) :
    ∃ r, recorded = some r ∧ Hf (processGroupDb bs Hf recorded g).out = r := by
  cases recorded with
  | none => rw [C18_uncovered_unknown] at h; cases h
  | some r =>
    rcases processGroupDb_some bs Hf r g with ⟨h1, _⟩ | ⟨_, h2, _⟩
    · exact ⟨r, rfl, h1⟩
    · rw [h2] at h; cases h

/-- A covered path whose output does not match the recorded hashes is marked KO and makes the run
exit non-zero. -/
theorem C18_ko_nonzero (bs : Nat) (Hf : Bytes → Nat × Nat) (r : Nat × Nat) (g : List (Nat × Bytes))
    (h : Hf (processGroupDb bs Hf (some r) g).out ≠ r) :
    (processGroupDb bs Hf (some r) g).mark = .ko ∧ (processGroupDb bs Hf (some r) g).errcode = 1 := by
  exact ((processGroupDb_some bs Hf r g).resolve_left (fun h' => h h'.1)).2

/-- `findCorrect` is `find?` on the copies numbered from `start` -/
theorem findCorrect_eq (Hf : Bytes → Nat × Nat) (r : Nat × Nat) (copies : List Bytes) (start : Nat) :
    findCorrect Hf r copies start =
      ((copies.zipIdx start).find? (fun ci => Hf ci.1 = r)).map (fun ci => (ci.2, ci.1)) := by
  induction copies generalizing start with
  | nil => rfl
  | cons x xs ih =>
    rw [findCorrect, List.zipIdx_cons, List.find?_cons, ih]
    by_cases hx : Hf x = r <;> simp [hx]

/-- A replica is used as the already-correct copy only if it matches the recorded hashes. -/
theorem C18_correct_copy_matches (Hf : Bytes → Nat × Nat) (r : Nat × Nat) (copies : List Bytes) (start i : Nat) (c : Bytes)
    (h : findCorrect Hf r copies start = some (i, c)) :
    Hf c = r ∧ start ≤ i ∧ copies[i - start]? = some c := by
  rw [findCorrect_eq, Option.map_eq_some_iff] at h
  obtain ⟨⟨c', i'⟩, hf, e⟩ := h
  cases e
  obtain ⟨h1, h2⟩ := List.mem_zipIdx_iff_le_and_getElem?_sub.1 (List.mem_of_find?_eq_some hf)
  exact ⟨by simpa using List.find?_some hf, h1, h2⟩

/-- `findCorrect` finds a copy whenever one matches. -/
theorem C18_find_complete (Hf : Bytes → Nat × Nat) (r : Nat × Nat) (copies : List Bytes) (start : Nat)
    (h : ∃ c ∈ copies, Hf c = r) : ∃ ic, findCorrect Hf r copies start = some ic := by
  obtain ⟨c, hc, hcr⟩ := h
  obtain ⟨i, hi, rfl⟩ := List.mem_iff_getElem.1 hc
  rw [findCorrect_eq, ← Option.isSome_iff_exists, Option.isSome_map, List.find?_isSome]
  exact ⟨(copies[i], start + i), List.mk_add_mem_zipIdx_iff_getElem?.2 (List.getElem?_eq_getElem hi),
    by simpa using hcr⟩

/-- A damaged first replica is never copied through as correct when another replica matches the
database or the vote over the replicas restores the file: in both cases what is written matches
the recorded hashes (and is marked OK). Groups of two or more copies (a single copy is simply
copied, then judged by `C18_ok_sound` / `C18_ko_nonzero`). -/
theorem C18_vote_preferred (bs : Nat) (Hf : Bytes → Nat × Nat) (r : Nat × Nat) (g : List (Nat × Bytes))
    (hlen : 2 ≤ g.length)
    (h : (∃ c ∈ g.map (·.2), Hf c = r) ∨ Hf (Pff.Vote.majorityVote bs (g.map (·.2))).out = r) :
    Hf (processGroupDb bs Hf (some r) g).out = r ∧ (processGroupDb bs Hf (some r) g).mark = .ok := by
  have hpre : Hf (pre bs Hf (some r) g).1 = r := by
    match g, hlen with
    | a :: b :: rest, _ =>
      unfold pre
      simp only [Option.bind_some]
      cases hf : findCorrect Hf r (List.map (·.2) (a :: b :: rest)) 0 with
      | some ic =>
        obtain ⟨i, c⟩ := ic
        exact (C18_correct_copy_matches Hf r _ 0 i c hf).1
      | none =>
        rcases h with h | h
        · obtain ⟨ic, hic⟩ := C18_find_complete Hf r _ 0 h
          rw [hf] at hic
          cases hic
        · exact h
  rw [← processGroupDb_out] at hpre
  exact ⟨hpre, ((processGroupDb_some bs Hf r g).resolve_right (fun h' => h'.1 hpre)).2⟩

/-! ## the whole run (`dupWithDb`): every row of the report, the exit status -/

/-- Every row marked hash-correct has the recorded hashes of its own path (at any depth), and a
run that exits 0 has no row marked KO, no error code, and every covered path hash-correct. -/
theorem C18_run_ok_sound (bs : Nat) (Hf : Bytes → Nat × Nat) (db : List (String × Nat × Nat)) (replicas : List Tree) :
    (∀ row ∈ (dupWithDb bs Hf db replicas).rows, row.mark = .ok →
        ∃ r, dbLookup db row.path = some r ∧ Hf row.out = r) ∧
    ((dupWithDb bs Hf db replicas).exit = 0 →
        ∀ row ∈ (dupWithDb bs Hf db replicas).rows, row.errcode = 0 ∧ row.mark ≠ .ko ∧
          ∀ r, dbLookup db row.path = some r → Hf row.out = r) := by
  refine ⟨?_, ?_⟩
  · intro row hrow hok
    obtain ⟨pg, _, rfl⟩ := mem_rows hrow
    exact C18_ok_sound bs Hf (dbLookup db pg.1) pg.2 hok
  · intro hexit row hrow
    have herr := exit_zero_errcode hexit row hrow
    obtain ⟨pg, _, rfl⟩ := mem_rows hrow
    refine ⟨herr, ?_⟩
    have herr' : (processGroupDb bs Hf (dbLookup db pg.1) pg.2).errcode = 0 := herr
    show (processGroupDb bs Hf (dbLookup db pg.1) pg.2).mark ≠ .ko ∧ ∀ r, dbLookup db pg.1 = some r →
      Hf (processGroupDb bs Hf (dbLookup db pg.1) pg.2).out = r
    cases hl : dbLookup db pg.1 with
    | none => rw [C18_uncovered_unknown]; exact ⟨nofun, nofun⟩
    | some r =>
      rw [hl] at herr'
      rcases processGroupDb_some bs Hf r pg.2 with ⟨h1, h2⟩ | ⟨_, _, h3⟩
      · rw [h2]; exact ⟨nofun, fun r' e => by cases e; exact h1⟩
      · rw [h3] at herr'; cases herr'

/-- A path not covered by the database is never reported hash-correct (nor KO). -/
theorem C18_run_uncovered (bs : Nat) (Hf : Bytes → Nat × Nat) (db : List (String × Nat × Nat)) (replicas : List Tree) :
    ∀ row ∈ (dupWithDb bs Hf db replicas).rows, dbLookup db row.path = none → row.mark = .unknown := by
  intro row hrow hnone
  obtain ⟨pg, _, rfl⟩ := mem_rows hrow
  have hnone' : dbLookup db pg.1 = none := hnone
  show (processGroupDb bs Hf (dbLookup db pg.1) pg.2).mark = .unknown
  rw [hnone']
  exact C18_uncovered_unknown bs Hf pg.2

/-- The rows are the paths of the union of the replicas, each once, in walk order, with exactly
the replicas that hold it (C07 for the run with a database). -/
theorem C18_run_paths (bs : Nat) (Hf : Bytes → Nat × Nat) (db : List (String × Nat × Nat)) (replicas : List Tree)
    (hs : ∀ t ∈ replicas, Sorted t) :
    let r := dupWithDb bs Hf db replicas
    (r.rows.map (·.path)).Pairwise (fun p q => pathLt p q = true) ∧
    (∀ p, p ∈ r.rows.map (·.path) ↔ ∃ t ∈ replicas, p ∈ (walk t).map (·.1)) ∧
    (∀ row ∈ r.rows, row.used = ((replicas.map walk).zipIdx).filterMap
        (fun ci => if row.path ∈ ci.1.map (·.1) then some ci.2 else none)) := by
  intro r
  obtain ⟨h1, h2, h3⟩ := dupGroups_spec replicas hs
  have hp : r.rows.map (·.path) = (dupGroups replicas).map (·.1) := rows_path bs Hf db replicas
  refine ⟨hp ▸ h1, fun p => hp ▸ h2 p, fun row hrow => ?_⟩
  obtain ⟨pg, hpg, rfl⟩ := mem_rows hrow
  exact (congrArg (List.map (·.1)) (h3 pg hpg)).trans (holders_fst _ _)

/-- A covered path held by at least two replicas, of which one copy is hash-correct or whose vote
is hash-correct, is written hash-correct and marked OK — whatever the first replica holds. -/
theorem C18_run_restores (bs : Nat) (Hf : Bytes → Nat × Nat) (db : List (String × Nat × Nat)) (replicas : List Tree)
    (hs : ∀ t ∈ replicas, Sorted t) (p : Path) (r : Nat × Nat)
    (hdb : dbLookup db p = some r)
    (copies : List Bytes)
    (hcopies : copies = (replicas.map walk).filterMap (fun w => (w.find? (fun pc => pc.1 = p)).map (·.2)))
    (h2 : 2 ≤ copies.length)
    (h : (∃ c ∈ copies, Hf c = r) ∨ Hf (Pff.Vote.majorityVote bs copies).out = r) :
    ∃ row ∈ (dupWithDb bs Hf db replicas).rows, row.path = p ∧ Hf row.out = r ∧ row.mark = .ok := by
  obtain ⟨pg, hpg, rfl, rfl⟩ := dupGroups_copies replicas hs p copies hcopies (by omega)
  refine ⟨mkRow bs Hf db pg, dupWithDb_rows .. ▸ List.mem_map_of_mem hpg, rfl, ?_⟩
  show Hf (processGroupDb bs Hf (dbLookup db pg.1) pg.2).out = r ∧
    (processGroupDb bs Hf (dbLookup db pg.1) pg.2).mark = .ok
  rw [hdb]
  exact C18_vote_preferred bs Hf r pg.2 (by simpa using h2) h

end Pff.DupDb
