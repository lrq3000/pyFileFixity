import Pff.Model.Path
import Pff.Proofs.Path3
/-!
# Path handling and root relocation (C03, C05, C12, C16, C17: "copied or moved to a different root";
C07: relative components)

The tools record `path2unix(os.path.relpath(os.path.join(dirpath, filename), rootfolderpath))` at
generation time and open `os.path.join(rootfolderpath, relfilepath)` at check time, the root being
`fullpath(argument)`.  These theorems are about the line-by-line model of those functions
(`Pff/Model/Path.lean`, tied to the real `os.path` / `pathlib` / `lib.aux_funcs` functions by the
correspondence check):

* `PATH_abspath_good` — whatever the argument, `fullpath` returns a normalised absolute path;
* `PATH_gen_root_independent` — what generation records for a tree does not depend on where the tree
  is mounted: it is the '/'-joined relative components of every file (`relFS`);
* `PATH_mount_eq`, `PATH_join_injective`, `PATH_lookup_relocated` — the absolute path opened for a
  recorded relative path under ANY root is exactly the path of that file in the walk of that root,
  so looking a relative path up in the relocated tree is looking it up in `relFS`;
* `PATH_relFS_nodup` — distinct files have distinct recorded paths;
* `PATH_single_file` — single-file input: root = `dirname`, recorded path = `basename`;
* `PATH_relpath_posix` — the component list `pff dup` aligns replicas on;
* `C12_recorded_root_independent` — what is recorded is the same for any two roots;
* (`Props/PathRun.lean`) `C03_run_relocated` — composed with the run-level theorem: an ecc file
  generated from a tree mounted at one root verifies clean against the same tree mounted at any
  other root.
-/
namespace Pff.Path

theorem PATH_abspath_good (cwd p : Bytes) (hc : GoodRoot cwd) : GoodRoot (abspath cwd p) :=
  abspath_abs cwd p hc.head

theorem PATH_mount_eq (root : Bytes) (t : PTree) (hr : GoodRoot root) (ht : PlainTree t) :
    mountAbs root t = (relFS t).map (fun e => (join2 root e.1, e.2)) :=
  mountAbs_eq root ht

theorem PATH_gen_root_independent (cwd root : Bytes) (t : PTree) (hr : GoodRoot root) (ht : PlainTree t) :
    genFS cwd root t = (relFS t).map (fun e => (some e.1, e.2)) := by
  have h : genFS cwd root t =
      (mountAbs root t).map (fun e => ((relpath cwd e.1 root).bind path2unix, e.2)) := by
    simp [genFS, mountAbs]
  rw [h, mountAbs_eq root ht, List.map_map]
  refine List.map_congr_left fun e he => ?_
  obtain ⟨L, hne, hL, h⟩ := relFS_mem ht e he
  simp only [Function.comp, h, recorded_join2 cwd hr hne hL]

theorem PATH_join_injective (root a b : Bytes) (hr : GoodRoot root)
    (ha : a.head? ≠ some sep) (hb : b.head? ≠ some sep) (h : join2 root a = join2 root b) : a = b :=
  join2_injective root ha hb h

theorem PATH_relFS_nodup (t : PTree) (ht : PlainTree t) (hd : DistinctTree t) :
    ((relFS t).map (·.1)).Nodup := by
  have h1 := (relwalk_nodup t [] hd).1
  rw [relFS, List.map_map]
  rw [List.Nodup, List.pairwise_map] at h1 ⊢
  exact h1.imp_of_mem fun ha hb hab e =>
    hab (joinSlash_inj (key_plain ht _ ha) (key_plain ht _ hb) e)

/-- recorded paths never begin with a slash, are non-empty and hold no NUL unless a name does -/
theorem PATH_relFS_relative (t : PTree) (ht : PlainTree t) :
    ∀ e ∈ relFS t, e.1 ≠ [] ∧ e.1.head? ≠ some sep := by
  intro e he
  obtain ⟨L, hne, hL, h⟩ := relFS_mem ht e he
  rw [h]
  exact ⟨joinSlash_ne_nil hne hL, joinSlash_head hL⟩

theorem PATH_lookup_relocated (root : Bytes) (t : PTree) (hr : GoodRoot root) (ht : PlainTree t)
    (rel : Bytes) (hrel : rel.head? ≠ some sep) :
    ((mountAbs root t).find? (fun e => e.1 == join2 root rel)).map (·.2) =
      ((relFS t).find? (fun e => e.1 == rel)).map (·.2) :=
  lookup_relocated root ht hrel

theorem PATH_single_file (cwd pre : Bytes) (comps : List Bytes) (f : Bytes)
    (hpre : pre = [sep] ∨ pre = [sep, sep]) (hc : ∀ c ∈ comps, Plain c) (hf : Plain f) :
    let p := pre ++ joinSlash (comps ++ [f])
    basename p = f ∧ dirname p = pre ++ joinSlash comps ∧ join2 (dirname p) (basename p) = p ∧
      (relpath cwd (join2 (dirname p) (basename p)) (dirname p)).bind path2unix = some f := by
  intro p
  have hr : GoodRoot (pre ++ joinSlash comps) := ⟨pre, comps, hpre, hc, rfl⟩
  have hp : join2 (pre ++ joinSlash comps) f = p := join_good hpre hc (.single hf)
  have h4 : (relpath cwd (join2 (pre ++ joinSlash comps) f) (pre ++ joinSlash comps)).bind path2unix
      = some f := recorded_join2 cwd hr (L := [f]) (by simp) (.single hf)
  obtain ⟨hb, hd⟩ := basename_dirname_join2 hr hf
  rw [hp] at hb hd
  rw [hb, hd]
  exact ⟨rfl, rfl, hp, h4⟩

theorem PATH_relpath_posix (cwd root : Bytes) (ds : List Bytes) (f : Bytes) (hr : GoodRoot root)
    (hds : ∀ d ∈ ds, Plain d) (hf : Plain f) :
    relpathPosix cwd (ds.foldl join2 root) f root = some (ds ++ [f]) := by
  rw [relpathPosix, relpath_join cwd hr hds, Option.map_some, path2unixParts]
  by_cases e : ds = []
  · subst e
    rw [if_pos rfl, join2_nosep (by simp) (by simp [dot, sep]) hf.head,
      pureParts_rel (by simp [dot, sep]), splitSlash_append _ _ (by simp [dot, sep]),
      splitSlash_nosep f hf.2.1]
    simp [hf.1, hf.2.2.1]
  · rw [if_neg e, join2_nosep (joinSlash_ne_nil e hds) (joinSlash_getLast e hds) hf.head]
    show some (pureParts (joinSlash ds ++ sep :: joinSlash [f])) = _
    rw [← joinSlash_append e (by simp), pureParts_joinSlash (by simp) (AllPlain.append hds (.single hf))]

/-- C12, relocation clause: what generation records (hence the ecc body, a function of the recorded
paths, the contents and the parameters: `Pff.Run.genStream`) is the same for every root the tree
is mounted at -/
theorem C12_recorded_root_independent (cwd r1 r2 : Bytes) (t : PTree) (hr1 : GoodRoot r1) (hr2 : GoodRoot r2)
    (ht : PlainTree t) : genFS cwd r1 t = genFS cwd r2 t := by
  rw [PATH_gen_root_independent cwd r1 t hr1 ht, PATH_gen_root_independent cwd r2 t hr2 ht]

/-! non-vacuity: a concrete tree, two roots -/

def toyTree : PTree :=
  .node [([97], [1, 2, 3]), ([46, 98], [])] [([100], .node [([97], [4])] [([101, 32, 102], .node [([103], [5, 6])] [])])]

example : PlainTree toyTree ∧ DistinctTree toyTree := by
  simp only [toyTree, PlainTree, PlainTree.PlainDirs, DistinctTree, DistinctTree.DistinctDirs]
  decide

example : GoodRoot [47, 114] ∧ GoodRoot [47] :=
  ⟨⟨[47], [[114]], .inl rfl, by decide, rfl⟩, ⟨[47], [], .inl rfl, by decide, rfl⟩⟩

/-- `fullpath` is idempotent: the root the tools compute is a fixed point of the normalisation, so
handing it to `fullpath` / `relpath` again (as `recwalk` and `os.path.relpath` do internally) changes
nothing -/
theorem PATH_abspath_idempotent (cwd cwd' p : Bytes) (hc : GoodRoot cwd) :
    abspath cwd' (abspath cwd p) = abspath cwd p :=
  abspath_good_id cwd' (PATH_abspath_good cwd p hc)

/-- a normalised absolute path is its own normal form -/
theorem PATH_normpath_good (r : Bytes) (hr : GoodRoot r) : normpath r = r := by
  obtain ⟨pre, comps, hpre, hplain, rfl⟩ := hr
  exact normpath_good hpre hplain

/-- the relative path of the root to itself is "." and of a walked file never starts with ".." -/
theorem PATH_relpath_root_self (cwd r : Bytes) (hr : GoodRoot r) : relpath cwd r r = some [dot] :=
  relpath_join cwd hr (L := []) (by simp [AllPlain])

end Pff.Path
