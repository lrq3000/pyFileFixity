import Pff.Model.OpsFacade
import Pff.Props.BridgeSpec
import Pff.Props.C01
import Pff.Props.C02
import Pff.Props.C09
import Pff.Props.C11
import Pff.Proofs.Bridge
/-!
# Bridge: facade under contract W ⇒ the per-block premises of C01 / C09

The per-file theorems of C01 (`C01_whole_file_partial`, `C01_header_file_partial`,
`C01_run_within_capacity`) and C09 (`C09_intra_repair_*`) assume, per assembled block, `BlockOK`
/ `IntraBlockOK` of an abstract `Ops`.  Here these premises are *derived* for the `Ops` the tools
actually use — the facade model `opsOfFacade` over the byte field of the selected codec — from
"the received block is within the correction capacity", using `C02_decode_exact_errors`,
`C02_decode_exact_erasures` (contract W for the third-party decoder), `C11_accepts` and
`C11_detects`.  With these, "damage within capacity ⇒ exact repair" is one chain of theorems from
the byte-level facade to the run.

Capacity is counted on the received `message ++ parity` of the block against the original message
and the parity generated for it: `2·errors ≤ n−k` (default mode), `2·errors + erasures ≤ n−k`
(`--enable_erasures`: erasures = received positions holding the erasure symbol).  The stored hash
of the block may be damaged too: it is then not trusted, the parity check decides.  With the
default fast check a block is accepted on its hash alone, hence the explicit no-collision
hypothesis `hhash` *for this block* (not needed with `--no_fast_check`).
-/
namespace Pff.Bridge

open Pff.GF Pff.Facade Pff.Ecc Pff.Layout Pff.RSSpec Pff.Entry

/-- codecs 1–3 (`--ecc_algo 1|2|3`), default mode (no erasure handling) -/
theorem C01_block_premise_A (algo n k0 : Nat) (ha : algo = 1 ∨ algo = 2 ∨ algo = 3) (hn : n ≤ 255)
    (core : Core (Elt pA)) (hW : CoreW (codecA algo n k0) core) (H : Bytes → Bytes) (fast : Bool)
    (orig : Bytes) (b : AsmBlock) (hg : BlockGeom n orig b)
    (hcap : 2 * hdist (b.msg ++ b.ecc)
        (origMsg orig b ++ (opsOfFacade (codecA algo n k0) core H false 0 false).enc b.k (origMsg orig b)) ≤ n - b.k)
    (hhash : fast = true → H b.msg = b.hash → b.msg = origMsg orig b) :
    BlockOK (opsOfFacade (codecA algo n k0) core H false 0 false) fast n orig b := by
  exact (Pff.BridgeProofs.byteCodecA algo n k0 ha hn).block_premise hW H fast hg hcap hhash

/-- codec 4 (`--ecc_algo 4`), default mode -/
theorem C01_block_premise_B (n k0 : Nat) (hn : n ≤ 255)
    (core : Core (Elt pB)) (hW : CoreW (codecB n k0) core) (H : Bytes → Bytes) (fast : Bool)
    (orig : Bytes) (b : AsmBlock) (hg : BlockGeom n orig b)
    (hcap : 2 * hdist (b.msg ++ b.ecc)
        (origMsg orig b ++ (opsOfFacade (codecB n k0) core H false 0 false).enc b.k (origMsg orig b)) ≤ n - b.k)
    (hhash : fast = true → H b.msg = b.hash → b.msg = origMsg orig b) :
    BlockOK (opsOfFacade (codecB n k0) core H false 0 false) fast n orig b := by
  exact (Pff.BridgeProofs.byteCodecB n k0 hn).block_premise hW H fast hg hcap hhash

/-- codecs 1–3 with `--enable_erasures` (erasure symbol `sym < 256`): `2·errors + erasures ≤ n−k` -/
theorem C01_block_premise_A_erasures (algo n k0 sym : Nat) (ha : algo = 1 ∨ algo = 2 ∨ algo = 3) (hn : n ≤ 255)
    (hsym : sym < 256)
    (core : Core (Elt pA)) (hW : CoreW (codecA algo n k0) core) (H : Bytes → Bytes) (fast : Bool)
    (orig : Bytes) (b : AsmBlock) (hg : BlockGeom n orig b)
    (hcap : 2 * errorsOutside (b.msg ++ b.ecc)
          (origMsg orig b ++ (opsOfFacade (codecA algo n k0) core H true sym false).enc b.k (origMsg orig b))
          (erasedPos (b.msg ++ b.ecc) sym)
        + (erasedPos (b.msg ++ b.ecc) sym).length ≤ n - b.k)
    (hhash : fast = true → H b.msg = b.hash → b.msg = origMsg orig b) :
    BlockOK (opsOfFacade (codecA algo n k0) core H true sym false) fast n orig b := by
  exact (Pff.BridgeProofs.byteCodecA algo n k0 ha hn).block_premise_erasures hW H fast hsym hg hcap hhash

/-- codec 4 with `--enable_erasures` -/
theorem C01_block_premise_B_erasures (n k0 sym : Nat) (hn : n ≤ 255) (hsym : sym < 256)
    (core : Core (Elt pB)) (hW : CoreW (codecB n k0) core) (H : Bytes → Bytes) (fast : Bool)
    (orig : Bytes) (b : AsmBlock) (hg : BlockGeom n orig b)
    (hcap : 2 * errorsOutside (b.msg ++ b.ecc)
          (origMsg orig b ++ (opsOfFacade (codecB n k0) core H true sym false).enc b.k (origMsg orig b))
          (erasedPos (b.msg ++ b.ecc) sym)
        + (erasedPos (b.msg ++ b.ecc) sym).length ≤ n - b.k)
    (hhash : fast = true → H b.msg = b.hash → b.msg = origMsg orig b) :
    BlockOK (opsOfFacade (codecB n k0) core H true sym false) fast n orig b := by
  exact (Pff.BridgeProofs.byteCodecB n k0 hn).block_premise_erasures hW H fast hsym hg hcap hhash

/-- metadata fields (path, size): the intra blocks have no hash; the premise of
`C09_intra_repair_*` from "within ⌊parity/2⌋ wrong symbols" — codecs 1–3 -/
theorem C09_intra_block_premise_A (algo n k0 k : Nat) (ha : algo = 1 ∨ algo = 2 ∨ algo = 3) (hn : n ≤ 255)
    (core : Core (Elt pA)) (hW : CoreW (codecA algo n k0) core) (H : Bytes → Bytes)
    (orig : Bytes) (b : AsmBlock) (hk : b.k = k) (hg : BlockGeom n orig b)
    (hcap : 2 * hdist (b.msg ++ b.ecc)
        (origMsg orig b ++ (opsOfFacade (codecA algo n k0) core H false 0 false).enc k (origMsg orig b)) ≤ n - k) :
    IntraBlockOK (opsOfFacade (codecA algo n k0) core H false 0 false) k orig b := by
  subst hk
  exact (Pff.BridgeProofs.byteCodecA algo n k0 ha hn).intra_block_premise hW H hg hcap

/-- … codec 4 -/
theorem C09_intra_block_premise_B (n k0 k : Nat) (hn : n ≤ 255)
    (core : Core (Elt pB)) (hW : CoreW (codecB n k0) core) (H : Bytes → Bytes)
    (orig : Bytes) (b : AsmBlock) (hk : b.k = k) (hg : BlockGeom n orig b)
    (hcap : 2 * hdist (b.msg ++ b.ecc)
        (origMsg orig b ++ (opsOfFacade (codecB n k0) core H false 0 false).enc k (origMsg orig b)) ≤ n - k) :
    IntraBlockOK (opsOfFacade (codecB n k0) core H false 0 false) k orig b := by
  subst hk
  exact (Pff.BridgeProofs.byteCodecB n k0 hn).intra_block_premise hW H hg hcap

/-- what C03 / C09 need of the codec (`CleanOps`, `IntraOps`) holds of the facade: lengths and
"a parity just produced passes the check" -/
theorem C03_clean_ops_A (algo n k0 : Nat) (ha : algo = 1 ∨ algo = 2 ∨ algo = 3) (hn : n ≤ 255)
    (core : Core (Elt pA)) (H : Bytes → Bytes)
    (en : Bool) (sym : Nat) (oe : Bool) :
    (∀ k m, 1 ≤ m.length → m.length ≤ k → k ≤ n → IsBytes m →
      ((opsOfFacade (codecA algo n k0) core H en sym oe).enc k m).length = n - k ∧
      (opsOfFacade (codecA algo n k0) core H en sym oe).chk k m ((opsOfFacade (codecA algo n k0) core H en sym oe).enc k m) = true) := by
  intro k m h1 h2 _ _
  exact (Pff.BridgeProofs.byteCodecA algo n k0 ha hn).clean_ops core H en sym oe k m (by omega)

theorem C03_clean_ops_B (n k0 : Nat) (hn : n ≤ 255)
    (core : Core (Elt pB)) (H : Bytes → Bytes) (en : Bool) (sym : Nat) (oe : Bool) :
    (∀ k m, 1 ≤ m.length → m.length ≤ k → k ≤ n → IsBytes m →
      ((opsOfFacade (codecB n k0) core H en sym oe).enc k m).length = n - k ∧
      (opsOfFacade (codecB n k0) core H en sym oe).chk k m ((opsOfFacade (codecB n k0) core H en sym oe).enc k m) = true) := by
  intro k m h1 h2 _ _
  exact (Pff.BridgeProofs.byteCodecB n k0 hn).clean_ops core H en sym oe k m (by omega)

end Pff.Bridge
