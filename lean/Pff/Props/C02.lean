import Pff.Props.RSSpec
import Pff.Props.C11
import Pff.Props.C12
import Pff.Proofs.RSGuard
import Pff.Proofs.Sound
/-!
# C02 — the Reed–Solomon facade corrects every pattern within its capacity

Property theorems only. The third-party decoders are the parameter `core`, assumed to satisfy
contract W (`CoreW`, see `RSSpec.lean`); `C02_contract_consistent` shows W is satisfiable (the
codeword within capacity is unique), so no theorem below is vacuous.
-/
namespace Pff.RSSpec

open Pff.RS Pff.Facade Pff.GF

variable {F : Type} [Field F] [DecidableEq F]

/-- Encoding a message of at most k bytes yields exactly n−k parity bytes. -/
theorem C02_encode_length (c : Codec F) (hc : GoodCodec c) (msg : List F) (k : Nat)
    (hm : msg.length ≤ effK c k) (hk : effK c k ≤ c.n) :
    (encode c msg k).length = c.n - effK c k := by
  have _ := hm; have _ := hk   -- (not needed)
  exact Pff.RSProofs.length_encode c hc msg k

/-- A short message behaves as if left-padded with zeros. -/
theorem C02_short_as_padded (c : Codec F) (hc : GoodCodec c) (msg : List F) (k : Nat)
    (hm : msg.length ≤ effK c k) (hk : effK c k ≤ c.n) :
    encode c msg k = encode c (List.replicate (effK c k - msg.length) 0 ++ msg) k := by
  have _ := hc; have _ := hk   -- (not needed)
  open Pff.RSProofs in
  rw [encode_eq, encode_eq, pad_fst, pad_fst]
  have : (List.replicate (effK c k - msg.length) (0 : F) ++ msg).length = effK c k := by
    simp; omega
  rw [this, Nat.sub_self]
  simp

/-- Zero padding is never mistaken for an erasure: the positions handed to the library are
exactly the positions of the erasure symbol in the received `message ++ ecc`, shifted by the pad
length (so none of them lies inside the pad). -/
theorem C02_pad_not_erasure (c : Codec F) (msg ecc : List F) (k : Nat) (ec : F) (oe : Bool)
    (call : CoreCall F) (h : prepareDecode c msg ecc k true ec oe = some call) :
    call.erasePos = some (((List.range (msg ++ ecc).length).filter
        (fun i => (msg ++ ecc)[i]? = some ec)).map (· + call.padLen)) ∧
    call.padLen = effK c k - msg.length ∧
    call.word.take call.padLen = List.replicate call.padLen 0 := by
  open Pff.RSProofs in
  rw [prepareDecode_eq] at h
  simp only [Bool.true_or, ↓reduceIte, Option.map_some] at h
  split at h
  · cases h
  · cases h
    refine ⟨rfl, pad_snd _ _, ?_⟩
    simp only [pad_snd, pad_fst, List.append_assoc]
    rw [List.take_left' (by simp)]

/-- Uniqueness behind contract W: two codewords within capacity of the same received word (same
erasure set) coincide. -/
theorem C02_decode_unique (c : Codec F) (hc : GoodCodec c) (nsym : Nat) (hns : nsym ≤ c.n)
    (word cw cw' : List F) (hw : word.length = c.n) (h1 : cw.length = c.n) (h2 : cw'.length = c.n)
    (hc1 : rsCheck c.pw c.fcr nsym cw = true) (hc2 : rsCheck c.pw c.fcr nsym cw' = true)
    (E : Option (List Nat)) (oe : Bool)
    (hcap1 : WithinCap word cw nsym E oe) (hcap2 : WithinCap word cw' nsym E oe) :
    cw = cw' := by
  have _ := hns   -- (not needed)
  open Pff.RSProofs in
  refine min_distance hc.prim c.fcr nsym cw cw' (h1.trans h2.symm) (h1 ▸ hc.n_le) hc1 hc2 ?_
  have := hdist_le_add_errorsOutside word cw cw' (E.getD []) (hw.trans h1.symm) (hw.trans h2.symm)
  have := withinCap_bound hcap1 (hw.trans h1.symm)
  have := withinCap_bound hcap2 (hw.trans h2.symm)
  omega

/-- Contract W is satisfiable for every good codec. -/
theorem C02_contract_consistent (c : Codec F) (hc : GoodCodec c) : ∃ core : Core F, CoreW c core := by
  open Pff.RSProofs in
  classical
  refine ⟨fun _ word nsym E oe =>
    if h : ∃ cw : List F, word.length = c.n ∧ cw.length = c.n ∧ nsym ≤ c.n ∧
        rsCheck c.pw c.fcr nsym cw = true ∧ WithinCap word cw nsym E oe
    then .ok ((Classical.choose h).take (c.n - nsym), (Classical.choose h).drop (c.n - nsym))
    else .error .other, ?_⟩
  intro word cw nsym E oe hw hcw hns hchk hcap
  have hex : ∃ cw : List F, word.length = c.n ∧ cw.length = c.n ∧ nsym ≤ c.n ∧
        rsCheck c.pw c.fcr nsym cw = true ∧ WithinCap word cw nsym E oe :=
    ⟨cw, hw, hcw, hns, hchk, hcap⟩
  have hspec := Classical.choose_spec hex
  have heq : Classical.choose hex = cw :=
    C02_decode_unique c hc nsym hns word _ cw hw hspec.2.1 hcw hspec.2.2.2.1 hchk E oe hspec.2.2.2.2 hcap
  refine ⟨cw.drop (c.n - nsym), ?_, Or.inl rfl⟩
  simp only [dif_pos hex, heq]

/-- Errors only (erasure handling off): any received word within ⌊(n−k)/2⌋ wrong symbols of
message+parity decodes to exactly the original message and parity. -/
theorem C02_decode_exact_errors (c : Codec F) (hc : GoodCodec c) (core : Core F) (hW : CoreW c core)
    (msg : List F) (k : Nat) (hm : msg.length ≤ effK c k) (hk : effK c k ≤ c.n)
    (msg' ecc' : List F) (hl : msg'.length = msg.length) (he : ecc'.length = c.n - effK c k)
    (hcap : 2 * hdist (msg' ++ ecc') (msg ++ encode c msg k) ≤ c.n - effK c k) :
    decode core c msg' ecc' k false 0 false = .ok (msg, encode c msg k) := by
  refine Pff.RSProofs.decode_exact c hc core hW msg k hm hk msg' ecc' hl he false 0 [] rfl ?_
  rw [Pff.RSProofs.errorsOutside_nil _ _ (by
    rw [List.length_append, List.length_append, hl, he, Pff.RSProofs.length_encode c hc msg k])]
  exact hcap

/-- Errors and erasures (erasure handling on, erasure symbol `ec`): with `f` = number of received
positions holding the erasure symbol and `e` = number of other positions that are wrong,
`2e + f ≤ n−k` ⇒ exact original message and parity. -/
theorem C02_decode_exact_erasures (c : Codec F) (hc : GoodCodec c) (core : Core F) (hW : CoreW c core)
    (msg : List F) (k : Nat) (hm : msg.length ≤ effK c k) (hk : effK c k ≤ c.n)
    (msg' ecc' : List F) (hl : msg'.length = msg.length) (he : ecc'.length = c.n - effK c k) (ec : F)
    (hcap : 2 * errorsOutside (msg' ++ ecc') (msg ++ encode c msg k)
                ((List.range (msg' ++ ecc').length).filter (fun i => (msg' ++ ecc')[i]? = some ec))
            + ((List.range (msg' ++ ecc').length).filter (fun i => (msg' ++ ecc')[i]? = some ec)).length
            ≤ c.n - effK c k) :
    decode core c msg' ecc' k true ec false = .ok (msg, encode c msg k) := by
  exact Pff.RSProofs.decode_exact c hc core hW msg k hm hk msg' ecc' hl he true ec _ rfl hcap

/-- **No contract assumed**: whatever the third-party decoder `core` returns, a successful
`decode` that consulted it made corrections within the capacity of the code — counted on the
padded received word handed to the library: `2·(corrected positions outside the erasure list) +
(erasures) ≤ n−k`.  (The guard added to `ECCMan.decode` by the repair of the miscorrection
defect; before it, a beyond-capacity result of the library — another valid codeword — was
returned as a successful repair.) -/
theorem C02_decode_within_radius (c : Codec F) (core : Core F) (msg ecc : List F) (k : Nat)
    (en : Bool) (ec : F) (oe : Bool) (call : CoreCall F) (m' e' : List F)
    (hprep : prepareDecode c msg ecc k en ec oe = some call)
    (hdec : decode core c msg ecc k en ec oe = .ok (m', e')) :
    ∃ mr er, m' = mr.drop call.padLen ∧ e' = er ∧
      2 * correctedErrors call.word (mr ++ er) (call.erasePos.getD []) + (call.erasePos.getD []).length ≤ call.nsym := by
  exact Pff.RSProofs.decode_within_radius c core msg ecc k en ec oe call m' e' hprep hdec

/-- the erasure positions `decode` detects on the received `message ++ ecc` (none when erasure
handling is off; `--only_erasures` alone turns it on, as repaired) -/
def detectedErasures (msg ecc : List F) (en oe : Bool) (ec : F) : List Nat :=
  if en || oe then (List.range (msg ++ ecc).length).filter (fun i => (msg ++ ecc)[i]? = some ec) else []

/-- Full-length blocks (no padding), any decoder: the repaired message and parity returned by a
successful `decode` differ from the received ones within the capacity of the code, or are the
received ones themselves (early return of the only-erasures mode). -/
theorem C02_decode_full_block_within_radius (c : Codec F) (core : Core F) (msg ecc : List F) (k : Nat)
    (en : Bool) (ec : F) (oe : Bool) (m' e' : List F)
    (hm : msg.length = effK c k) (he : ecc.length = c.n - effK c k)
    (hdec : decode core c msg ecc k en ec oe = .ok (m', e')) :
    (m' = msg ∧ e' = ecc) ∨
    2 * correctedErrors (msg ++ ecc) (m' ++ e') (detectedErasures msg ecc en oe ec)
      + (detectedErasures msg ecc en oe ec).length ≤ c.n - effK c k := by
  refine (Pff.RSProofs.decode_ok_cases c core msg ecc k en ec oe m' e' he hdec
    (detectedErasures msg ecc en oe ec) rfl).imp_right ?_
  rintro ⟨mr, rfl, h⟩
  simpa [hm] using h

/-- **Soundness without any contract.**  For an ARBITRARY third-party decoder `core`: if the
received message+parity is within the capacity of the code around the original (`2e ≤ n−k`, or
with erasure handling `2e + f ≤ n−k`), and `decode` returns a result of the right lengths that
passes `check`, then that result IS the original message and its parity.  (The result is a
codeword by the check, it differs from the received word within capacity by the guard inside
`decode`, the original does so by hypothesis: two codewords that close to one word coincide —
minimum distance.)  Contract W is thus needed only for *liveness* — that the decoder does return
something within capacity — never for the correctness of what the tools commit on an ecc check. -/
theorem C02_decode_sound (c : Codec F) (hc : GoodCodec c) (core : Core F)
    (msg : List F) (k : Nat) (hm : msg.length ≤ effK c k) (hk : effK c k ≤ c.n)
    (msg' ecc' : List F) (hl : msg'.length = msg.length) (he : ecc'.length = c.n - effK c k)
    (en : Bool) (ec : F) (oe : Bool)
    (hcap : if en || oe then
        2 * errorsOutside (msg' ++ ecc') (msg ++ encode c msg k) (detectedErasures msg' ecc' en oe ec)
          + (detectedErasures msg' ecc' en oe ec).length ≤ c.n - effK c k
      else 2 * hdist (msg' ++ ecc') (msg ++ encode c msg k) ≤ c.n - effK c k)
    (m'' e'' : List F) (hdec : decode core c msg' ecc' k en ec oe = .ok (m'', e''))
    (hml : m''.length = msg.length) (hel : e''.length = c.n - effK c k)
    (hchk : check c m'' e'' k = true) :
    m'' = msg ∧ e'' = encode c msg k := by
  refine Pff.RSProofs.decode_sound_of_bound c hc core msg k hm hk msg' ecc' hl he en ec oe
    (detectedErasures msg' ecc' en oe ec) rfl ?_ m'' e'' hdec hml hel hchk
  have hlen : (msg' ++ ecc').length = (msg ++ encode c msg k).length := by
    rw [List.length_append, List.length_append, hl, he, Pff.RSProofs.length_encode c hc msg k]
  cases hb : (en || oe)
  · simpa [detectedErasures, hb, Pff.RSProofs.errorsOutside_nil _ _ hlen] using hcap
  · simpa [hb] using hcap

end Pff.RSSpec
