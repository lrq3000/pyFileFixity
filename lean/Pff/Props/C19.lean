import Pff.Model.Tamper
import Pff.Proofs.Tamper
/-!
# C19 — the tampering tool damages only what it says, and never the length

Property theorems only. Every theorem is for **every** oracle stream `ρ` (all seeds, all
probabilities), every file content and size, every parameter set.
-/
namespace Pff.Tamper

/-- The file length never changes. -/
theorem C19_length (P : Params) (content : Bytes) (ρ : List Nat) :
    (tamperFile P content ρ).content.length = content.length := by
  exact (tamperFile_tampered P content ρ).1.length

/-- With `--header h` no byte at offset ≥ h is touched. -/
theorem C19_region (P : Params) (h : Nat) (hP : P.header = some h) (content : Bytes) (ρ : List Nat) :
    (tamperFile P content ρ).content.drop h = content.drop h := by
  rw [tamperFile_eq_loop, rounds, hP]
  simp only [tamperLoop]
  split
  · rfl
  · -- the one block stands where `content.take h` stood
    rw [drop_append_of_length_le _ (tamperBlock_tampered P (content.take h) ρ).1.length
      (List.length_take_le ..), List.take_append_drop]

/-- In erasure mode every altered byte is zero. -/
theorem C19_erasure_zero (P : Params) (hP : P.mode = .erasure) (content : Bytes) (ρ : List Nat)
    (i : Nat) (hi : i < content.length)
    (hne : (tamperFile P content ρ).content[i]? ≠ content[i]?) :
    (tamperFile P content ρ).content[i]? = some 0 := by
  have _ := hi
  exact ((tamperFile_tampered P content ρ).1.erased hP i).resolve_left hne

/-- The reported count is at least the number of bytes that really differ and at most the size
scanned, which is at most the size of the selected region. -/
theorem C19_count_bounds (P : Params) (content : Bytes) (ρ : List Nat) :
    diffCount (tamperFile P content ρ).content content ≤ (tamperFile P content ρ).count ∧
    (tamperFile P content ρ).count ≤ (tamperFile P content ρ).total ∧
    (tamperFile P content ρ).total ≤
      (match P.header with | some h => min h content.length | none => content.length) := by
  have h := tamperFile_tampered P content ρ
  refine ⟨h.1.diff, h.2.1, ?_⟩
  cases hP : P.header with
  | some hd => exact Nat.le_min.mpr ⟨by simpa only [rounds, hP, Nat.one_mul] using h.2.2.1, h.2.2.2⟩
  | none => exact h.2.2.2

/-- Probability 0 (every `random.random() < x` outcome False) leaves the file identical and
reports zero tampered characters. -/
theorem C19_p0_identity (P : Params) (content : Bytes) (ρ : List Nat) (hρ : ∀ x ∈ ρ, x = 0) :
    (tamperFile P content ρ).content = content ∧ (tamperFile P content ρ).count = 0 := by
  rw [tamperFile_eq_loop]
  exact tamperLoop_allZero _ _ _ _ _ hρ

/-- Given a directory, every file of the walk is visited exactly once, in order, none is added or
dropped, and every length is preserved. -/
theorem C19_dir_once (P : Params) (files : List (String × Bytes)) (ρ : List Nat) :
    (tamperDir P files ρ).files.map (·.1) = files.map (·.1) ∧
    (tamperDir P files ρ).files.map (·.2.length) = files.map (·.2.length) ∧
    (tamperDir P files ρ).filesCount = files.length := by
  induction files generalizing ρ with
  | nil => exact ⟨rfl, rfl, rfl⟩
  | cons f fs ih =>
    have h := ih (tamperFile P f.2 ρ).rest
    simp only [tamperDir, List.map_cons, h.1, h.2.1, h.2.2, C19_length, List.length_cons,
      Nat.add_comm 1, and_self]

/-- Each file of a directory is tampered exactly as `tamper_file` would with the oracle left by
its predecessors; in particular a single file behaves as a one-file directory. -/
theorem C19_single_as_dir (P : Params) (p : String) (c : Bytes) (ρ : List Nat) :
    (tamperDir P [(p, c)] ρ).files = [(p, (tamperFile P c ρ).content)] ∧
    (tamperDir P [(p, c)] ρ).count = (tamperFile P c ρ).count ∧
    (tamperDir P [(p, c)] ρ).total = (tamperFile P c ρ).total := by
  refine ⟨rfl, ?_, ?_⟩
  · simp only [tamperDir]
    split <;> omega
  · simp only [tamperDir]
    omega

/-- Non-vacuity: a concrete noisy run with a burst that is cut at the block boundary. -/
example : (tamperFile { mode := .noise, blockCoin := false, burst := true, header := none, blocksize := 4 }
            [1,2,3,4,5,6] [0,0,1,5,0,7,8,9,0,0]).content = [1,2,0,7,0,0] := by
  decide

end Pff.Tamper
