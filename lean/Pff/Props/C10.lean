import Pff.Model.Layout
import Pff.Proofs.Layout
/-!
# C10 — block layout agrees between generation and correction for every file size

Property theorems only. `kOf` (offset ↦ message length) is an arbitrary function with
`1 ≤ kOf x`; so the theorems cover every file size, header size, rate triple, max block size and
every rounding behaviour of the rate formula. `H` (hash) and `enc` (encoder) are arbitrary
functions with the stated output lengths.
-/
namespace Pff.Layout

/-- Whole-file tool: the generation partition tiles `[0, size)` exactly once; every block has the
message length given by `kOf` at its own offset, only the last one may be short. -/
theorem C10_tiles (kOf : Nat → Nat) (hk : ∀ x, 1 ≤ kOf x) (size : Nat) :
    Tiles (layoutGen kOf size (size + 1) 0) 0 size ∧
    ∀ b ∈ layoutGen kOf size (size + 1) 0,
      b.k = kOf b.off ∧ b.len ≤ b.k ∧ (b.len = b.k ∨ b.off + b.len = size) := by
  exact ⟨layoutGen_tiles kOf hk size (size + 1) 0 (Nat.zero_le _) (by omega),
    layoutGen_shape kOf hk size _ _⟩

/-- Whole-file tool: reading back the track written by generation yields exactly the generation
partition, and every block is paired with exactly its own stored hash and parity. -/
theorem C10_agree_whole (kOf : Nat → Nat) (hk : ∀ x, 1 ≤ kOf x) (hashLen mbs : Nat)
    (H : Bytes → Bytes) (enc : Nat → Bytes → Bytes)
    (hH : ∀ m, (H m).length = hashLen)
    (henc : ∀ k m, 1 ≤ m.length → m.length ≤ k → (enc k m).length = mbs - k)
    (hpos : ∀ x, 1 ≤ hashLen + (mbs - kOf x))
    (content : Bytes) :
    assemble kOf hashLen mbs content (genTrack H enc kOf content) (content.length + 1) 0 0 =
      (layoutGen kOf content.length (content.length + 1) 0).map
        (fun b => { off := b.off, msg := slice content b, k := b.k,
                    hash := H (slice content b), ecc := enc b.k (slice content b) }) := by
  have h := assemble_agree kOf hk hashLen mbs H enc hH (fun x => henc (kOf x)) hpos content []
    (content.length + 1) 0 []
  rwa [List.append_nil] at h

/-- The stored track has exactly the length of hash + parity over the partition. -/
theorem C10_track_length (kOf : Nat → Nat) (hk : ∀ x, 1 ≤ kOf x) (hashLen mbs : Nat)
    (H : Bytes → Bytes) (enc : Nat → Bytes → Bytes)
    (hH : ∀ m, (H m).length = hashLen)
    (henc : ∀ k m, 1 ≤ m.length → m.length ≤ k → (enc k m).length = mbs - k)
    (content : Bytes) :
    (genTrack H enc kOf content).length =
      ((layoutGen kOf content.length (content.length + 1) 0).map (fun b => hashLen + (mbs - b.k))).sum := by
  exact chunks_length kOf hk hashLen mbs H enc hH (fun x => henc (kOf x)) content _ _ _ (Nat.le_refl _)

/-- Header tool: the partition tiles the protected region `[0, min header size)` with constant
message length `k`. -/
theorem C10_header_tiles (k headerSize size : Nat) (hk : 1 ≤ k) :
    Tiles (layoutHeader k headerSize size (size + 1) 0) 0 (min headerSize size) ∧
    ∀ b ∈ layoutHeader k headerSize size (size + 1) 0,
      b.k = k ∧ b.len ≤ k ∧ (b.len = k ∨ b.off + b.len = min headerSize size) := by
  rw [layoutHeader_eq_layoutGen]
  refine ⟨layoutGen_tiles _ (fun _ => hk) _ _ 0 (Nat.zero_le _) (by omega), fun b hb => ?_⟩
  obtain ⟨h1, h2⟩ := layoutGen_shape _ (fun _ => hk) _ _ _ b hb
  exact ⟨h1, h1 ▸ h2⟩

/-- Header tool: reading back the generated track pairs every block with its own hash/parity. -/
theorem C10_agree_header (k hashLen mbs headerSize : Nat) (hk : 1 ≤ k)
    (H : Bytes → Bytes) (enc : Nat → Bytes → Bytes)
    (hH : ∀ m, (H m).length = hashLen)
    (henc : ∀ m, 1 ≤ m.length → m.length ≤ k → (enc k m).length = mbs - k)
    (hpos : 1 ≤ hashLen + (mbs - k))
    (content : Bytes) :
    assembleHeader k hashLen mbs headerSize content (genTrackHeader H enc k headerSize content)
        (content.length + 1) 0 0 =
      (layoutHeader k headerSize content.length (content.length + 1) 0).map
        (fun b => { off := b.off, msg := slice content b, k := b.k,
                    hash := H (slice content b), ecc := enc b.k (slice content b) }) := by
  have h := assembleHeader_agree k hashLen mbs headerSize hk H enc hH henc hpos content []
    (content.length + 1) 0 []
  rwa [List.append_nil] at h

/-- The staged rule: the stage-1 rate below the header size, the interpolation between the
stage-2 and stage-3 rates by file offset afterwards. -/
theorem C10_stage_rule {R : Type} (K : R → Nat) (scale : Nat → Nat → Nat → R → R → R)
    (headerSize size : Nat) (r1 r2 r3 : R) (x : Nat) :
    kOfStaged K scale headerSize size r1 r2 r3 x =
      if x < headerSize then K r1 else K (scale x headerSize size r2 r3) := by
  rfl

/-- The correction side caps the interpolation position to the recorded file size (repair of the
`--ignore_size` defect): below or at that size it is the generation rule, whatever `K` and
`scale` are. -/
theorem C10_read_rule_agrees {R : Type} (K : R → Nat) (scale : Nat → Nat → Nat → R → R → R)
    (headerSize size : Nat) (r1 r2 r3 : R) (x : Nat) (hx : x ≤ size) :
    kOfStaged K (fun x xmin xmax a b => scale (min x xmax) xmin xmax a b) headerSize size r1 r2 r3 x =
      kOfStaged K scale headerSize size r1 r2 r3 x := by
  unfold kOfStaged
  simp only [Nat.min_eq_left hx]

/-- The generated layout (hence the generated track) only consults the rule below the file size:
two rules that agree there generate the same blocks. -/
theorem C10_layout_congr (kOf kOf' : Nat → Nat) (size : Nat) (h : ∀ x, x < size → kOf x = kOf' x)
    (fuel cur : Nat) : layoutGen kOf size fuel cur = layoutGen kOf' size fuel cur := by
  induction fuel generalizing cur with
  | zero => rfl
  | succ n ih =>
    unfold layoutGen
    split
    · next hlt => simp only [h cur hlt, ih]
    · rfl

theorem C10_track_congr (H : Bytes → Bytes) (enc : Nat → Bytes → Bytes) (kOf kOf' : Nat → Nat)
    (content : Bytes) (h : ∀ x, x < content.length → kOf x = kOf' x) :
    genTrack H enc kOf content = genTrack H enc kOf' content := by
  unfold genTrack
  rw [C10_layout_congr kOf kOf' content.length h]

/-- Non-vacuity: a concrete layout with a varying `kOf` and a short last block. -/
example : layoutGen (fun x => if x < 4 then 3 else 5) 12 13 0 =
    [⟨0, 3, 3⟩, ⟨3, 3, 3⟩, ⟨6, 5, 5⟩, ⟨11, 1, 5⟩] := by
  decide

end Pff.Layout
