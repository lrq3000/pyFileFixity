import Pff.Model.Entry
import Pff.Props.C14
import Pff.Props.C10
import Pff.Props.C09
/-!
# C08 — ecc entries are independent: damage to one never affects the others

Property theorems only.  The ecc file is `build pre marker entries` (no global header: `pre` is a
comment preamble that is never parsed).  Damage confined to one entry replaces the bytes of that
entry by arbitrary bytes `V'` (any length); if its marker is destroyed its bytes are glued to the
previous entry.  Both cases are again a `build` of an entry list, so by the scanner theorems (C14)
every other entry is returned with exactly its own bytes; an entry whose track got trailing bytes
glued to it is split and assembled exactly as before (the extra bytes are never consumed); each
entry is processed by a function of its own bytes only.
-/
namespace Pff.Entry

open Pff.Ecc Pff.Layout Pff.Scan

/-- the loop over all entries, with an arbitrary per-entry processing function (both tools hand
each entry's own bytes — and nothing else of the ecc file — to the per-entry code) -/
def correctAll {R : Type} (processEntry : Bytes → R) (stream mk : Bytes) (blocksize : Nat) : List R :=
  ((scanAll false stream mk blocksize (stream.length + 2) 0).map
      (fun ab => (stream.drop ab.1).take (ab.2 - ab.1))).map processEntry

/-- on a generated stream the loop hands each entry's own bytes to the per-entry code -/
theorem correctAll_built {R : Type} (processEntry : Bytes → R) (pre mk : Bytes) (es : List Bytes)
    (blocksize : Nat) (hm : 0 < mk.length) (h : NoAccidental pre mk es) :
    correctAll processEntry (build pre mk es) mk blocksize = es.map processEntry := by
  rw [correctAll, scanAll_built_fuel pre mk es blocksize hm h, C14_content_built]

/-- Whatever bytes `V'` replace entry `v` (as long as no additional marker is spelled), every
other entry is still returned, in order, with exactly its own bytes, and processed identically;
the run reaches the end of the file. -/
theorem C08_independent {R : Type} (processEntry : Bytes → R) (pre mk : Bytes) (entries : List Bytes)
    (blocksize v : Nat) (V' : Bytes) (hm : 0 < mk.length) (hv : v < entries.length)
    (hclean : NoAccidental pre mk (entries.set v V')) :
    correctAll processEntry (build pre mk (entries.set v V')) mk blocksize =
      (entries.set v V').map processEntry ∧
    ∀ j, j ≠ v → j < entries.length →
      (correctAll processEntry (build pre mk (entries.set v V')) mk blocksize)[j]? =
        some (processEntry (entries[j]?.getD [])) := by
  have h1 := correctAll_built processEntry pre mk (entries.set v V') blocksize hm hclean
  refine ⟨h1, fun j hj hlt => ?_⟩
  rw [h1, List.getElem?_map, List.getElem?_set_ne (Ne.symm hj), List.getElem?_eq_getElem hlt]
  rfl

/-- Destroyed marker: the victim's bytes `G` (its damaged marker and everything after it) are
glued to the previous entry; all other entries are still returned with their own bytes. -/
theorem C08_glued {R : Type} (processEntry : Bytes → R) (pre mk : Bytes) (before after : List Bytes)
    (prev G : Bytes) (blocksize : Nat) (hm : 0 < mk.length)
    (hclean : NoAccidental pre mk (before ++ [prev ++ G] ++ after)) :
    correctAll processEntry (build pre mk (before ++ [prev ++ G] ++ after)) mk blocksize =
      before.map processEntry ++ [processEntry (prev ++ G)] ++ after.map processEntry := by
  rw [correctAll_built processEntry pre mk _ blocksize hm hclean]
  simp only [List.map_append, List.map_cons, List.map_nil]

/-- An entry whose track got trailing bytes glued to it is split into the same fields… -/
theorem C08_fields_ignore_trailing (p : EntryParts) (G : Bytes) (hp : p.path ≠ [])
    (h1 : Clean p.path) (h2 : Clean p.sizeTxt) (h3 : Clean p.pathEcc) (h4 : Clean p.sizeEcc) :
    entryFields ((genEntry { p with track := p.track ++ G }).drop marker.length) =
      entryFields ((genEntry p).drop marker.length) := by
  rw [C09_fields_roundtrip p hp h1 h2 h3 h4,
    C09_fields_roundtrip { p with track := p.track ++ G } hp h1 h2 h3 h4]

/-- … and its blocks are assembled exactly as without the trailing bytes, in both tools: the
extra bytes are never consumed (whole-file tool: the file is exhausted first). -/
theorem C08_overlong_track_whole (kOf : Nat → Nat) (hk : ∀ x, 1 ≤ kOf x) (hashLen mbs : Nat)
    (H : Bytes → Bytes) (enc : Nat → Bytes → Bytes)
    (hH : ∀ m, (H m).length = hashLen)
    (henc : ∀ k m, 1 ≤ m.length → m.length ≤ k → (enc k m).length = mbs - k)
    (hpos : ∀ x, 1 ≤ hashLen + (mbs - kOf x))
    (content G : Bytes) :
    assemble kOf hashLen mbs content (genTrack H enc kOf content ++ G) (content.length + 1) 0 0 =
      assemble kOf hashLen mbs content (genTrack H enc kOf content) (content.length + 1) 0 0 := by
  rw [C10_agree_whole kOf hk hashLen mbs H enc hH henc hpos content]
  exact assemble_agree kOf hk hashLen mbs H enc hH (fun x => henc (kOf x)) hpos content G
    (content.length + 1) 0 []

theorem C08_overlong_track_header (k hashLen mbs headerSize : Nat) (hk : 1 ≤ k)
    (H : Bytes → Bytes) (enc : Nat → Bytes → Bytes)
    (hH : ∀ m, (H m).length = hashLen)
    (henc : ∀ m, 1 ≤ m.length → m.length ≤ k → (enc k m).length = mbs - k)
    (hpos : 1 ≤ hashLen + (mbs - k))
    (content G : Bytes) :
    assembleHeader k hashLen mbs headerSize content (genTrackHeader H enc k headerSize content ++ G)
        (content.length + 1) 0 0 =
      assembleHeader k hashLen mbs headerSize content (genTrackHeader H enc k headerSize content)
        (content.length + 1) 0 0 := by
  rw [C10_agree_header k hashLen mbs headerSize hk H enc hH henc hpos content]
  exact assembleHeader_agree k hashLen mbs headerSize hk H enc hH henc hpos content G
    (content.length + 1) 0 []

end Pff.Entry
