import Pff.Model.Entry
import Pff.Proofs.EntryA
/-!
# C09 — entry metadata (path, size) is itself ECC-protected and round-trips exactly

Property theorems only. Field splitting, size text and intra-ecc of both tools; `O : Ops` is an
arbitrary codec record, theorems state what they need of it (`C11_accepts` / `C02_decode_exact_*`
supply it for the real facade under contract W).
-/
namespace Pff.Entry

open Pff.Ecc Pff.Layout Pff.Entry.A

/-- no field delimiter starts inside `f`, even when `f` is followed by a delimiter (so names may
start or end with bytes of the delimiter, but not spell one together with it) -/
def Clean (f : Bytes) : Prop := ∀ i, i < f.length → ¬ delim.isPrefixOf ((f ++ delim).drop i) = true

/-- Splitting a generated entry recovers exactly the recorded path, size text and their parities,
and the offset of the ecc track — for every path length and every track. -/
theorem C09_fields_roundtrip (p : EntryParts) (hp : p.path ≠ [])
    (h1 : Clean p.path) (h2 : Clean p.sizeTxt) (h3 : Clean p.pathEcc) (h4 : Clean p.sizeEcc) :
    entryFields ((genEntry p).drop marker.length) =
      { path := p.path, sizeRaw := p.sizeTxt, pathEcc := p.pathEcc, sizeEcc := p.sizeEcc,
        trackOff := ((p.path.length + delim.length + p.sizeTxt.length + delim.length + p.pathEcc.length
                      + delim.length + p.sizeEcc.length + delim.length : Nat) : Int),
        stripped := 0 } := by
  have hdrop : (genEntry p).drop marker.length =
      p.path ++ delim ++ p.sizeTxt ++ delim ++ p.pathEcc ++ delim ++ p.sizeEcc ++ delim ++ p.track := by
    simp only [genEntry, List.append_assoc, List.drop_left]
  rw [hdrop]
  exact entryFields_gen p.path p.sizeTxt p.pathEcc p.sizeEcc p.track hp h1 h2 h3 h4

/-- The size text round-trips: `int(str(n)) = n` for every size. -/
theorem C09_size_roundtrip (n : Nat) : pyInt (digitsOf n) = some (n : Int) := by
  rw [pyInt_digits (digitsOf n) (digitsOf_ne_nil n) (digitsOf_digits n), dval_digitsOf]

/-- the size text is digits only (so it never contains a delimiter byte) -/
theorem C09_size_digits (n : Nat) : ∀ c ∈ digitsOf n, isDigit c = true := by
  exact digitsOf_digits n

/-- what the round trip needs of the codec at the intra rate -/
structure IntraOps (O : Ops) (k mbs : Nat) : Prop where
  kpos    : 1 ≤ k
  parity  : 1 ≤ mbs - k
  encLen  : ∀ m, 1 ≤ m.length → m.length ≤ k → (O.enc k m).length = mbs - k
  accepts : ∀ m, 1 ≤ m.length → m.length ≤ k → O.chk k m (O.enc k m) = true

/-- Undamaged, a field decodes to itself for every field length (one or several intra blocks),
both tools, without consulting the decoder. -/
theorem C09_intra_roundtrip (O : Ops) (k mbs : Nat) (hO : IntraOps O k mbs) (field : Bytes) :
    correctIntraHeader O k mbs field (intraEcc O.enc k field) = { field := field, corrupted := false, corrected := true } ∧
    correctIntraWhole O k mbs field (intraEcc O.enc k field) = { field := field, corrupted := false, corrected := true } := by
  unfold correctIntraHeader correctIntraWhole
  rw [assembleHeader_clean O.enc k mbs hO.kpos hO.parity hO.encLen field,
    assemble_clean O.enc k mbs hO.kpos hO.parity hO.encLen field,
    fold_clean O k hO.kpos hO.accepts field]
  exact ⟨rfl, rfl⟩

/-- every intra block of the received field/parity is accepted as it is with the original bytes,
or is repaired by the decoder to the original bytes with a parity that checks -/
def IntraBlockOK (O : Ops) (k : Nat) (orig : Bytes) (b : AsmBlock) : Prop :=
  let m := (orig.drop b.off).take b.msg.length
  (b.msg = m ∧ O.chk k b.msg b.ecc = true) ∨
  (O.chk k b.msg b.ecc = false ∧ ∃ p, O.dec k b.msg b.ecc = some (m, p) ∧ O.chk k m p = true)

/-- Damage within the intra capacity (per-block premise `IntraBlockOK`, supplied by contract W
for ≤ ⌊parity/2⌋ wrong symbols per block): the exact field is recovered and reported corrected. -/
theorem C09_intra_repair_header (O : Ops) (k mbs : Nat) (orig field' ecc' : Bytes)
    (hlen : field'.length = orig.length)
    (hcover : ((assembleHeader k 0 mbs field'.length field' ecc' (field'.length + 1) 0 0).map (·.msg)).flatten = field')
    (hok : ∀ b ∈ assembleHeader k 0 mbs field'.length field' ecc' (field'.length + 1) 0 0, IntraBlockOK O k orig b) :
    (correctIntraHeader O k mbs field' ecc').field = orig ∧
    (correctIntraHeader O k mbs field' ecc').corrected = true := by
  rw [correctIntraHeader, repair_of_blocks O k orig field' _ hlen hcover
    (assembleHeader_pieces k 0 mbs field'.length field' ecc' orig _ 0 0) hok]
  exact ⟨rfl, rfl⟩

theorem C09_intra_repair_whole (O : Ops) (k mbs : Nat) (orig field' ecc' : Bytes)
    (hlen : field'.length = orig.length)
    (hcover : ((assemble (fun _ => k) 0 mbs field' ecc' (field'.length + 1) 0 0).map (·.msg)).flatten = field')
    (hok : ∀ b ∈ assemble (fun _ => k) 0 mbs field' ecc' (field'.length + 1) 0 0, IntraBlockOK O k orig b) :
    (correctIntraWhole O k mbs field' ecc').field = orig ∧
    (correctIntraWhole O k mbs field' ecc').corrected = true := by
  rw [correctIntraWhole, repair_of_blocks O k orig field' _ hlen hcover
    (assemble_pieces (fun _ => k) 0 mbs field' ecc' orig _ 0 0) hok]
  exact ⟨rfl, rfl⟩

end Pff.Entry
