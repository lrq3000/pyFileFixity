import Pff.Model.Diff
import Pff.Proofs.Diff
/-!
# C20 — resilience-tester metrics are exact, so "error 0" means identical trees

Property theorems only. Quantifiers: all pairs of files (equal, prefix, different lengths,
empty), all read-chunk sizes `bs ≥ 1`, all start offsets, all trees.
-/
namespace Pff.Diff

/-- The byte-difference metric equals the number of differing positions over the common length
plus the difference of the lengths, over a total of the longer length — for every chunk size. -/
theorem C20_file (bs : Nat) (hbs : 0 < bs) (a b : Bytes) :
    diffBytesChunked bs a b = diffBytesSpec a b := by
  fun_induction diffBytesChunked bs a b with
  | case1 _ _ h0 => exact absurd h0 (Nat.ne_of_gt hbs)
  | case2 a b _ b1 b2 h =>
    rw [(take_eq_nil_iff_of_pos hbs b).mp h.2, diffBytesSpec_nil_right]
  | case3 a b _ b1 b2 _ h =>
    rw [(take_eq_nil_iff_of_pos hbs a).mp h.2, diffBytesSpec_nil_left]
  | case4 a b _ b1 b2 _ _ h =>
    rw [(take_eq_nil_iff_of_pos hbs a).mp h.1, (take_eq_nil_iff_of_pos hbs b).mp h.2]
    rfl
  | case5 a b _ b1 b2 _ _ _ r surplus ih =>
    -- a round adds the metric of the two chunks
    rw [diffBytesSpec_take_drop bs a b, ← ih]
    simp only [diffBytesSpec, surplus, ← min_add_absDiff b1.length, b1, b2, r]

/-- Same with start offsets: the metric of the two suffixes. -/
theorem C20_file_offsets (bs : Nat) (hbs : 0 < bs) (s1 s2 : Nat) (a b : Bytes) :
    diffBytesFiles bs s1 s2 a b = diffBytesSpec (a.drop s1) (b.drop s2) := by
  exact C20_file bs hbs (a.drop s1) (b.drop s2)

/-- The metric of a file pair is zero exactly for byte-identical files. -/
theorem C20_file_zero_iff (a b : Bytes) : (diffBytesSpec a b).1 = 0 ↔ a = b := by
  induction a generalizing b with
  | nil => rw [diffBytesSpec_nil_left, List.length_eq_zero_iff, eq_comm]
  | cons x xs ih =>
    cases b with
    | nil => simp only [diffBytesSpec_nil_right, List.length_cons, reduceCtorEq, Nat.succ_ne_zero]
    | cons y ys =>
      simp only [diffBytesSpec_cons, Nat.add_eq_zero_iff, ih, List.cons.injEq, ite_eq_left_iff,
        Nat.succ_ne_zero, imp_false, Decidable.not_not]

/-- The file-identity test is exact for every chunk size. -/
theorem C20_count_file (bs : Nat) (hbs : 0 < bs) (a b : Bytes) :
    diffCountChunked bs a b = true ↔ a = b := by
  fun_induction diffCountChunked bs a b with
  | case1 _ _ h0 => exact absurd h0 (Nat.ne_of_gt hbs)
  | case2 a b _ b1 b2 h =>
    simp only [Bool.false_eq_true, false_iff]
    exact fun hab => h (congrArg (List.take bs) hab)
  | case3 a b _ b1 b2 _ h =>
    rw [(take_eq_nil_iff_of_pos hbs a).mp h.1, (take_eq_nil_iff_of_pos hbs b).mp h.2]
    simp only
  | case4 a b _ b1 b2 h _ ih =>
    rw [ih, eq_iff_take_drop bs a b, and_iff_right (Decidable.not_not.mp h)]

/-- The tree metric is the sum of the file metric over the reference tree's files, a missing
file counting as wholly different. -/
theorem C20_tree (bs : Nat) (hbs : 0 < bs) (t1 t2 : Tree) :
    diffBytesDir bs t1 t2 =
      ( (t1.map (fun e => match lookup t2 e.1 with
                          | none => e.2.length
                          | some c2 => (diffBytesSpec e.2 c2).1)).sum,
        (t1.map (fun e => match lookup t2 e.1 with
                          | none => e.2.length
                          | some c2 => (diffBytesSpec e.2 c2).2)).sum ) := by
  refine foldl_pair_sum _ _ _ t1 fun acc e => ?_
  cases lookup t2 e.1 with
  | none => rfl
  | some c2 => simp only [C20_file bs hbs]

/-- The file-difference count is the number of reference files without an identical
counterpart, out of the number of reference files. -/
theorem C20_count_tree (bs : Nat) (hbs : 0 < bs) (t1 t2 : Tree) :
    diffCountDir bs t1 t2 =
      ((t1.filter (fun e => decide (lookup t2 e.1 ≠ some e.2))).length, t1.length) := by
  refine foldl_pair_count _ _ t1 fun acc e => ?_
  cases hl : lookup t2 e.1 with
  | none => simp
  | some c2 =>
    simp only [C20_count_file bs hbs]
    by_cases h : e.2 = c2
    · subst h
      simp only [if_true, ne_eq, not_true_eq_false, decide_false, Bool.false_eq_true, if_false]
    · have h' : some c2 ≠ some e.2 := fun h'' => h (Option.some.inj h'').symm
      rw [if_neg h, if_pos (decide_eq_true h')]

/-- Total difference zero ⇔ every reference file has a byte-identical counterpart (an *empty*
reference file may also be missing: "wholly different" is then zero bytes). -/
theorem C20_zero_iff_identical (bs : Nat) (hbs : 0 < bs) (t1 t2 : Tree) :
    (diffBytesDir bs t1 t2).1 = 0 ↔
      ∀ e ∈ t1, lookup t2 e.1 = some e.2 ∨ (e.2 = [] ∧ lookup t2 e.1 = none) := by
  rw [C20_tree bs hbs]
  simp only [List.sum_eq_zero_iff_forall_eq_nat, List.forall_mem_map]
  refine forall₂_congr fun e _ => ?_
  cases lookup t2 e.1 with
  | none => simp only [List.length_eq_zero_iff, reduceCtorEq, and_true, false_or]
  | some c2 =>
    simp only [C20_file_zero_iff, Option.some.injEq, reduceCtorEq, and_false, or_false]
    exact eq_comm

/-- `pff restest` exits 0 only if every file of the final tree that corresponds to a reference
file is byte-identical to it. -/
theorem C20_exit_zero (bs : Nat) (hbs : 0 < bs) (orig final : Tree)
    (h : restestExit (diffBytesDir bs orig final) = some 0) :
    ∀ e ∈ orig, ∀ c, lookup final e.1 = some c → c = e.2 := by
  have hz : (diffBytesDir bs orig final).1 = 0 := by
    unfold restestExit at h
    by_cases h2 : (diffBytesDir bs orig final).2 = 0
    · simp [h2] at h
    · by_cases h1 : (diffBytesDir bs orig final).1 = 0
      · exact h1
      · simp [h1, h2] at h
  intro e he c hc
  rcases (C20_zero_iff_identical bs hbs orig final).mp hz e he with hl | ⟨_, hl⟩
  · rw [hl] at hc
    exact (Option.some.inj hc).symm
  · rw [hl] at hc
    cases hc

/-- Non-vacuity / sanity: a concrete pair with different lengths and one differing byte. -/
example : diffBytesSpec [1,2,3,4,5] [1,9,3] = (3, 5) := by
  decide

end Pff.Diff
