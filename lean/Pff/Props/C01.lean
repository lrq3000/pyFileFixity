import Pff.Model.Ecc
import Pff.Proofs.EccB
/-!
# C01 — within-capacity damage is repaired bit-exactly (per-file logic)

Proved part of C01: if every block of the damaged file (as assembled from the damaged file and the
damaged ecc track) is either intact-and-accepted or detected-and-decoded to the original block with
a parity/hash that verifies, then the file written is **exactly** the original (whole-file tool) /
the original protected region followed by the damaged tail verbatim (header tool), the file is
counted as completely repaired, and a run of such files exits 0.
The per-block hypothesis is what `C02_decode_exact_errors/_erasures` + `C11_accepts` give for the
real facade under contract W when the block+parity suffered at most ⌊parity/2⌋ wrong symbols
(2e+f ≤ parity with erasures) and — in default mode — the damaged block does not collide with the
stored hash; that instantiation, the entry scanning and the metadata handling are covered by the
correspondence check of this property on the real tools (see DESIGN.md).
-/
namespace Pff.Ecc

open Pff.Layout Pff.Ecc.B

/-- block `b` (assembled from the damaged inputs) is handled correctly w.r.t. the original file -/
def BlockOK (O : Ops) (fast : Bool) (mbs : Nat) (orig : Bytes) (b : AsmBlock) : Prop :=
  let m := (orig.drop b.off).take b.msg.length
  (b.msg = m ∧ needsRepair O fast b = false) ∨
  (needsRepair O fast b = true ∧ ∃ p, O.dec b.k b.msg b.ecc = some (m, p) ∧
      (O.H m = b.hash ∨ (O.chk b.k m p = true ∧ eccComplete mbs b = true)))

/-- a block handled correctly is written as the original has it, intact or repaired -/
theorem processBlock_of_blockOK (O : Ops) (fast : Bool) (mbs : Nat) (orig : Bytes) (b : AsmBlock)
    (h : BlockOK O fast mbs orig b) :
    processBlock O fast mbs b = (piece orig b, if needsRepair O fast b then .repaired else .intact) := by
  rcases h with ⟨hm, hn⟩ | ⟨hn, p, hd, hc⟩
  · simp only [processBlock, hn, Bool.false_eq_true, if_false]
    rw [hm]
    rfl
  · have hcommit : (decide (O.H (piece orig b) = b.hash) ||
        (O.chk b.k (piece orig b) p && eccComplete mbs b)) = true := by
      rcases hc with hc | ⟨hc, he⟩
      · exact Bool.or_eq_true_iff.mpr (Or.inl (decide_eq_true hc))
      · exact Bool.or_eq_true_iff.mpr (Or.inr (Bool.and_eq_true_iff.mpr ⟨hc, he⟩))
    have hd' : O.dec b.k b.msg b.ecc = some (piece orig b, p) := hd
    simp only [processBlock, hn, if_true, hd', hcommit]

theorem C01_whole_file_partial (O : Ops) (fast : Bool) (thr hashLen mbs : Nat) (kOf : Nat → Nat)
    (orig damaged trackD : Bytes) (hlen : damaged.length = orig.length)
    (hcover : ((assemble kOf hashLen mbs damaged trackD (damaged.length + 1) 0 0).map (·.msg)).flatten = damaged)
    (hok : ∀ b ∈ assemble kOf hashLen mbs damaged trackD (damaged.length + 1) 0 0, BlockOK O fast mbs orig b) :
    (damaged ≠ orig →
      correctWholeFile O fast thr kOf hashLen mbs damaged trackD =
        { output := some orig, corrupted := true, complete := true, partialRep := false }) ∧
    (∀ out, (correctWholeFile O fast thr kOf hashLen mbs damaged trackD).output = some out → out = orig) ∧
    ((correctWholeFile O fast thr kOf hashLen mbs damaged trackD).corrupted = true →
      (correctWholeFile O fast thr kOf hashLen mbs damaged trackD).complete = true) := by
  exact partial_of_cases _ _ _ (wholeOf_ok O fast thr mbs orig damaged _ hlen hcover
    (assemble_pieces kOf hashLen mbs damaged trackD orig (damaged.length + 1) 0 0)
    (fun b hb => processBlock_of_blockOK O fast mbs orig b (hok b hb)))

theorem C01_header_file_partial (O : Ops) (fast : Bool) (thr k hashLen mbs readLen : Nat)
    (orig damaged trackD : Bytes) (hlen : damaged.length = orig.length)
    (hcover : ((assembleHeader k hashLen mbs readLen damaged trackD (damaged.length + 1) 0 0).map (·.msg)).flatten
                = damaged.take readLen)
    (hok : ∀ b ∈ assembleHeader k hashLen mbs readLen damaged trackD (damaged.length + 1) 0 0, BlockOK O fast mbs orig b) :
    (damaged.take readLen ≠ orig.take readLen →
      correctHeaderFile O fast thr k hashLen mbs readLen damaged trackD =
        { output := some (orig.take readLen ++ damaged.drop readLen), corrupted := true, complete := true,
          partialRep := false }) ∧
    (∀ out, (correctHeaderFile O fast thr k hashLen mbs readLen damaged trackD).output = some out →
        out = orig.take readLen ++ damaged.drop readLen) ∧
    ((correctHeaderFile O fast thr k hashLen mbs readLen damaged trackD).corrupted = true →
      (correctHeaderFile O fast thr k hashLen mbs readLen damaged trackD).complete = true) := by
  exact partial_of_cases _ _ _ (headerOf_ok O fast thr mbs readLen orig damaged _ hlen hcover
    (assembleHeader_pieces k hashLen mbs readLen damaged trackD orig (damaged.length + 1) 0 0)
    (fun b hb => processBlock_of_blockOK O fast mbs orig b (hok b hb)))

/-- a run in which every corrupted file is completely repaired exits 0 -/
theorem C01_exit (rs : List FileResult)
    (hwf : ∀ r ∈ rs, r.complete = true → r.corrupted = true)
    (h : ∀ r ∈ rs, r.corrupted = true → r.complete = true) : exitStatus rs = 0 := by
  apply exitStatus_of_iff
  intro r hr
  cases hc : r.corrupted with
  | true => exact (h r hr hc).symm
  | false =>
    cases hd : r.complete with
    | false => rfl
    | true => rw [hwf r hr hd] at hc; exact absurd hc (by simp only [Bool.true_eq_false, not_false_eq_true])

end Pff.Ecc
