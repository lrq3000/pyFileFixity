import Pff.Props.Path
import Pff.Props.RunC
/-!
# Root relocation composed with the correction run (C03)

`C03_run_relocated`: the ecc file generated from a tree mounted at root `r1` (what generation
records is `genFS cwd r1 t`, proved equal to the '/'-joined relative components `relFS t`), checked
against the same tree mounted at any other root `r2` (the file opened for a recorded relative path
is `join(r2, rel)` in the mount of `r2`, proved to be the lookup in `relFS t`): every file is found,
processed, uncorrupted, nothing is written or skipped, exit status 0.
-/
namespace Pff.Path

open Pff.Run in
theorem C03_run_relocated (O : Pff.Ecc.Ops) (P : Params) (pre cwd r1 r2 : Bytes) (t : PTree)
    (hr1 : GoodRoot r1) (hr2 : GoodRoot r2) (ht : PlainTree t) (hd : DistinctTree t)
    (hP : ParamsOK O P)
    (hfiles : ∀ pc ∈ relFS t, FileOK O P pc.1 pc.2)
    (hacc : Pff.Scan.NoAccidental pre Pff.Entry.marker ((relFS t).map (fun pc => genBody O P pc.1 pc.2))) :
    -- what generation at root r1 records: exactly the relative paths, no exception
    genFS cwd r1 t = (relFS t).map (fun e => (some e.1, e.2)) ∧
    -- correction at root r2 opens `join(r2, rel)`: on relative paths that is the lookup in `relFS`
    (∀ rel, rel.head? ≠ some sep →
      ((mountAbs r2 t).find? (fun e => e.1 == join2 r2 rel)).map (·.2) = fsLookup (relFS t) rel) ∧
    -- hence the run on the relocated tree is the pristine run
    (run O P (relFS t) (genStream O P pre (relFS t))).outcomes.map view =
        (relFS t).map (fun pc => (pc.1, false, true, cleanResult, Effect.none)) ∧
    counters (run O P (relFS t) (genStream O P pre (relFS t))) = ((relFS t).length, 0, 0, 0, 0) ∧
    exitOf (run O P (relFS t) (genStream O P pre (relFS t))) = 0 ∧
    outputs (run O P (relFS t) (genStream O P pre (relFS t))) = [] :=
  ⟨PATH_gen_root_independent cwd r1 t hr1 ht,
   fun _ hrel => lookup_relocated r2 ht hrel,
   C03_run_pristine O P pre (relFS t) hP hfiles (PATH_relFS_nodup t ht hd) hacc⟩

end Pff.Path
