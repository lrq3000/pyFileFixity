import Pff.Model.Ecc
import Pff.Proofs.EccB
import Pff.Props.C10
/-!
# C03 — undamaged files verify clean: no false corruption report, nothing written (per-file logic)

Proved part of C03: for a file whose entry has been located and whose recorded size is its size,
the block loops of both tools report no corruption and write nothing — for **every** file content
and size (empty included), every message-length function, every deterministic hash, every encoder
with the right output length, and **every decoder** (it is never consulted).  The entry-level part
(scanning = C14, field splitting, intra-ecc of path and size, relocation of the root) is covered by
the correspondence check of this property on the real tools; see DESIGN.md.
-/
namespace Pff.Ecc

open Pff.Layout Pff.Ecc.B

/-- what C03 needs of hash and codec: lengths, and (only with `--no_fast_check`) that a parity
just produced passes the check — which is `C11_accepts` for the real codecs -/
structure CleanOps (O : Ops) (hashLen mbs : Nat) (fast : Bool) : Prop where
  hashLen : ∀ m, (O.H m).length = hashLen
  encLen  : ∀ k m, 1 ≤ m.length → m.length ≤ k → (O.enc k m).length = mbs - k
  accepts : fast = false → ∀ k m, 1 ≤ m.length → m.length ≤ k → O.chk k m (O.enc k m) = true

theorem C03_whole_file_partial (O : Ops) (fast : Bool) (thr hashLen mbs : Nat) (kOf : Nat → Nat)
    (hk : ∀ x, 1 ≤ kOf x) (hpos : ∀ x, 1 ≤ hashLen + (mbs - kOf x))
    (hO : CleanOps O hashLen mbs fast) (content : Bytes) :
    correctWholeFile O fast thr kOf hashLen mbs content (genTrack O.H O.enc kOf content) =
      { output := none, corrupted := false, complete := false, partialRep := false } := by
  exact wholeOf_clean O fast thr mbs content _
    (whole_gen_clean O fast hashLen mbs kOf hk hpos hO.hashLen hO.encLen hO.accepts content)

theorem C03_header_file_partial (O : Ops) (fast : Bool) (thr k hashLen mbs headerSize : Nat)
    (hk : 1 ≤ k) (hpos : 1 ≤ hashLen + (mbs - k))
    (hO : CleanOps O hashLen mbs fast) (content : Bytes) :
    correctHeaderFile O fast thr k hashLen mbs
        (if 0 < content.length ∧ content.length < headerSize then content.length else headerSize)
        content (genTrackHeader O.H O.enc k headerSize content) =
      { output := none, corrupted := false, complete := false, partialRep := false } := by
  apply headerOf_clean
  rw [assembleHeader_congr_take k hashLen mbs _ headerSize content _ (take_readLen content headerSize)]
  exact header_gen_clean O fast k hashLen mbs headerSize hk hpos hO.hashLen hO.encLen hO.accepts content

/-- a run in which no file is corrupted exits 0 -/
theorem C03_exit (rs : List FileResult) (h : ∀ r ∈ rs, r.corrupted = false) : exitStatus rs = 0 := by
  exact exitStatus_of_none_corrupted rs h

end Pff.Ecc
